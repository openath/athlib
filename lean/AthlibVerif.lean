import AthlibVerif.Props.C01
import AthlibVerif.Props.C02
import AthlibVerif.Props.C03
import AthlibVerif.Props.C04
import AthlibVerif.Props.C05
import AthlibVerif.Props.C06
import AthlibVerif.Props.C07
import AthlibVerif.Props.C08
import AthlibVerif.Props.C09
import AthlibVerif.Props.C10
import AthlibVerif.Props.C11
import AthlibVerif.Props.C12
import AthlibVerif.Props.C13
import AthlibVerif.Props.C14
import AthlibVerif.Props.C15
import AthlibVerif.Props.C16
import AthlibVerif.Props.C17
import AthlibVerif.Props.C18
import AthlibVerif.Props.C19
import AthlibVerif.Oblig.C01.Table
import AthlibVerif.Oblig.C04.DisjFieldDuration
import AthlibVerif.Oblig.C04.DisjFieldMulti
import AthlibVerif.Oblig.C04.DisjJumpsThrows
import AthlibVerif.Oblig.C04.DisjMultiDuration
import AthlibVerif.Oblig.C04.DisjTimedDuration
import AthlibVerif.Oblig.C04.DisjTimedField
import AthlibVerif.Oblig.C04.DisjTimedMulti
import AthlibVerif.Oblig.C04.EqEventCode
import AthlibVerif.Oblig.C04.EqField
import AthlibVerif.Oblig.C04.EqFinishRecord
import AthlibVerif.Oblig.C04.EqJumps
import AthlibVerif.Oblig.C04.EqLengthEvent
import AthlibVerif.Oblig.C04.EqRun
import AthlibVerif.Oblig.C04.EqTimedEvent
import AthlibVerif.Oblig.C05.Tables
import AthlibVerif.Oblig.C05.Tyrving
import AthlibVerif.Oblig.C11.Keys
import AthlibVerif.Oblig.C11.Reach
import AthlibVerif.Oblig.C11.Tables
import AthlibVerif.Oblig.C14.Pos2015
import AthlibVerif.Oblig.C14.Pos2023
import AthlibVerif.Oblig.C14.PosAthlons
import AthlibVerif.Oblig.C14.Spelling2015F
import AthlibVerif.Oblig.C14.Spelling2015M
import AthlibVerif.Oblig.C14.Spelling2023F
import AthlibVerif.Oblig.C14.Spelling2023M
import AthlibVerif.Oblig.C14.SpellingAthlonsF
import AthlibVerif.Oblig.C14.SpellingAthlonsM
import AthlibVerif.Oblig.C15.Dist2015
import AthlibVerif.Oblig.C15.Dist2023
import AthlibVerif.Oblig.C15.Seam2015
import AthlibVerif.Oblig.C15.Seam2023
import AthlibVerif.Oblig.C16.Discipline
import AthlibVerif.Oblig.C17.Keys
import AthlibVerif.Oblig.C17.Weights
import AthlibVerif.Lemmas.RegexMap
import AthlibVerif.Lemmas.Access
