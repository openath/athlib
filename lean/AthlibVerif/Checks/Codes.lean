import AthlibVerif.Model.Codes
import AthlibVerif.Gen.Patterns
import AthlibVerif.Checks.Regex
import AthlibVerif.Checks.Match
import AthlibVerif.Lemmas.Eval
/-!
# What is decided of the event-code patterns, the alphabet and `FIELD_SORT_ORDER`

The checkers `Oblig/C10/Groups.lean` evaluates on the regenerated data, with the expressions they compare the patterns
with: which groups capture only digits, the metres group of the track pattern, the spellings of the field-order
entries, the leading-number patterns of `get_distance`, the leg of a relay.  Definitions only, so that the
obligations are evaluated in parallel with the proofs instead of after them.  What each checker buys is proved where
it is used: `Lemmas/MatchCodes.lean` (`digitTableOK`, `groupDigits`), `Lemmas/MatchWords.lean` (`singletonSym`,
`trackMetresOK`, `fieldSpellingsOK`, `fieldPrefixK`), `Lemmas/RelayLeg.lean` (`leadingOK`, `leadingShapeOK`, `numFactsOK`,
`relayLegOK`, `legShapeOK`: read once into the string-level facts `CodeFacts` that the walk through `get_distance` takes).
-/
namespace AthlibVerif
namespace Codes
open RE GRE

/-- `x+` over the class `m`, as an `RE`: `leadingOK` and the group checks compare languages with it and with `floatShape`.
    `GRE.plusG`, `GRE.floatG` are the same two as patterns with priorities, which `leadingShapeOK` compares the regenerated
    patterns themselves with. -/
def plusCls (m : Nat) : RE := .cat (.cls m) (.star (.cls m))

/-- every code point whose symbol lies in the digit class has a digit value -/
def digitTableOK : Bool :=
  !Gen.digitMask.testBit 0 &&
  Gen.symTable.all (fun e => !Gen.digitMask.testBit e.2.2 || Gen.digitBlocks.any (fun b => b.1 ≤ e.1 && e.2.1 ≤ b.2))

/-- every body of group `id` of pattern `g` is `$`-free and only accepts `\d+` -/
def groupDigits (g : GRE) (id : Nat) : Bool :=
  (grpBodies id g).all (fun b => noEol b &&
    RE.isEmptyLang Gen.nsym 100000 (RE.and (toRE [] b) (RE.not (plusCls Gen.digitMask))))

/-- the symbol of `c` stands for the code point of `c` and nothing else -/
def singletonSym (c : Char) : Bool :=
  symOf c != 0 && Gen.symTable.all (fun e => e.2.2 != symOf c || (e.1 == c.toNat && e.2.1 == c.toNat))

def charCls (c : Char) : RE := .cls (2 ^ symOf c)

def ciCls (c : Char) : RE := .cls (2 ^ symOf c ||| 2 ^ symOf (lowerC c))

def wordRE : List Char → RE
  | [] => .eps
  | c :: cs => .cat (charCls c) (wordRE cs)

def ciWord : List Char → RE
  | [] => .eps
  | c :: cs => .cat (ciCls c) (ciWord cs)

def capitals : List Char := "ABCDEFGHIJKLMNOPQRSTUVWXYZ".toList

def mileWord : List Char := "MILE".toList

/-- `\d+`, `MILE`, or one digit and `MILE` -/
def metresShape : RE :=
  .alt (plusCls Gen.digitMask) (.cat (.alt .eps (.cls Gen.digitMask)) (wordRE mileWord))

def trackMetresOK : Bool :=
  mileWord.all singletonSym &&
  (grpBodies 1 (pat "PAT_TRACK")).all (fun b => noEol b &&
    RE.isEmptyLang Gen.nsym 100000 (RE.and (toRE [] b) (RE.not metresShape)))

/-- every character whose symbol is `k` (read off the interval table) -/
def symChars (k : Nat) : List Char :=
  (Gen.symTable.filter (fun e => e.2.2 == k)).flatMap
    (fun e => (List.range (e.2.1 - e.1 + 1)).map (fun i => Char.ofNat (e.1 + i)))

/-- the symbols a character of a `FIELD_SORT_ORDER` entry may be spelt with: a capital also in lower case -/
def posSyms (c : Char) : List Nat := if capitals.contains c then [symOf c, symOf (lowerC c)] else [symOf c]

def maskOf (l : List Nat) : Nat := l.foldl (fun m k => m ||| 2 ^ k) 0

def posChars (c : Char) : List Char := (posSyms c).flatMap symChars

/-- `ciWord` for words with characters whose symbol stands for several code points (the digits of `H1` … `L9`): `lang_ciWord`
    needs singleton symbols and gives `upper t = w`; here the spellings are enumerated (`expand`, `lang_ciWord'`) and
    `fieldSpellingsOK` looks each one up -/
def ciWord' : List Char → RE
  | [] => .eps
  | c :: cs => .cat (.cls (maskOf (posSyms c))) (ciWord' cs)

/-- every string the entry `w` may be spelt as -/
def expand : List Char → List (List Char)
  | [] => [[]]
  | c :: cs => (posChars c).flatMap (fun a => (expand cs).map (a :: ·))

def anyStar : RE := .star (.cls (2 ^ (Gen.nsym + 1) - 1))

/-- the entries of `FIELD_SORT_ORDER` of the lengths the look-up tries -/
def fieldWords (long : Bool) : List (List Char) :=
  (Gen.FIELD_SORT_ORDER.map String.toList).filter
    (fun w => decide (2 ≤ w.length) && decide (w.length ≤ (if long then 4 else 3)))

def prefixUnion : List (List Char) → RE
  | [] => .empty
  | w :: ws => .alt (.cat (ciWord' w) anyStar) (prefixUnion ws)

/-- every word of the language starts with a spelling of an entry (capitals in either case; other characters by their
    symbol), and every such spelling upper-cases to an entry.  The hypothesis of `fieldOrder_total`; no obligation evaluates
    it: `Oblig/C10/Groups.lean` decides the two halves below, the inclusion by `emptyK` instead of `isEmptyLang`. -/
def fieldPrefixOK (long : Bool) (p : RE) : Bool :=
  (fieldWords long).all (fun w => w.all (fun c => (posSyms c).all (· != 0)) &&
    (expand w).all (fun t => (indexOf? Gen.FIELD_SORT_ORDER (upper t)).isSome)) &&
  RE.isEmptyLang Gen.nsym 100000 (RE.and p (RE.not (prefixUnion (fieldWords long))))

/-- every spelling of an entry of the lengths the look-up tries upper-cases to an entry: the half of
    `fieldPrefixOK` that does not depend on the pattern -/
def fieldSpellingsOK (long : Bool) : Bool :=
  forceWords (fieldWords long) fun ws => ws.all (fun w => w.all (fun c => (posSyms c).all (· != 0)) &&
    (expand w).all (fun t => (indexOf? Gen.FIELD_SORT_ORDER (upper t)).isSome))

/-- every word of `p` starts with a spelling of an entry: the other half, decided by `emptyK` -/
def fieldPrefixK (long : Bool) (p : RE) : Bool :=
  forceWords (fieldWords long) fun ws => RE.emptyK Gen.nsym 100000 (.and p (.not (prefixUnion ws)))

/-- `\d+\.\d*` over the digit class and the class of the point -/
def floatShape : RE := .cat (plusCls Gen.digitMask) (.cat (.cls Gen.dotMask) (.star (.cls Gen.digitMask)))

/-- the two leading-number patterns of `get_distance` have no `$` and accept only `\d+\.\d*` / `\d+`; the class of the
    point holds the point alone, and the point is no digit -/
def leadingOK : Bool :=
  noEol (pat "PAT_LEADING_FLOAT") && noEol (pat "PAT_LEADING_DIGITS") &&
  RE.isEmptyLang Gen.nsym 100000 (RE.and (toRE [] (pat "PAT_LEADING_FLOAT")) (RE.not floatShape)) &&
  RE.isEmptyLang Gen.nsym 100000 (RE.and (toRE [] (pat "PAT_LEADING_DIGITS")) (RE.not (plusCls Gen.digitMask))) &&
  singletonSym '.' && (Gen.dotMask == 2 ^ symOf '.') && !Gen.digitMask.testBit (symOf '.')

/-- the two leading-number patterns ARE `\d+` and `\d+\.\d*` over the digit class and the class of the point (so that
    `Lemmas/Greedy.lean` applies to them), and no digit symbol is in the class of the point -/
def leadingShapeOK : Bool :=
  (pat "PAT_LEADING_DIGITS" == plusG Gen.digitMask) && (pat "PAT_LEADING_FLOAT" == floatG Gen.digitMask Gen.dotMask) &&
  (List.range (Gen.nsym + 1)).all (fun x => !(Gen.digitMask.testBit x && Gen.dotMask.testBit x)) &&
  Gen.digitMask < 2 ^ (Gen.nsym + 1)

def spaceStar : RE := .star (.cls Gen.spaceMask)

def noXMask : Nat := maskOf ((List.range (Gen.nsym + 1)).filter (fun s => s != symOf 'x' && s != symOf 'X'))
def solidMask : Nat := maskOf ((List.range (Gen.nsym + 1)).filter (fun s => !Gen.spaceMask.testBit s))
/-- words without the symbols of `x` / `X` -/
def noX : RE := .star (.cls noXMask)
/-- non-empty words without white space -/
def solid : RE := plusCls solidMask

/-- what makes the upper-cased leg of a relay (group 2) a token of its own and no relay: every relay code contains `x` / `X`,
    the leg none of them and no white space, and upper-casing adds neither -/
def relayLegOK : Bool :=
  singletonSym 'x' && singletonSym 'X' &&
  -- every relay code contains an `x` or an `X`
  RE.emptyK Gen.nsym 100000 (RE.and Gen.PAT_RELAYS noX) &&
  -- the leg group always takes part, has no `$`, and captures a non-empty text without white space, `x`, `X`
  mandatory [2] (pat "PAT_RELAYS") &&
  (grpBodies 2 (pat "PAT_RELAYS")).all (fun b => noEol b &&
    RE.emptyK Gen.nsym 100000 (RE.and (toRE [] b) (RE.not (RE.and noX solid)))) &&
  -- lower-case letters and their capitals are not white space; upper-casing only produces `X` from `x`
  (List.range 26).all (fun k => !isSpaceC (Char.ofNat (97 + k)) && !isSpaceC (upperC (Char.ofNat (97 + k))) &&
    upperC (Char.ofNat (97 + k)) != 'x' && (upperC (Char.ofNat (97 + k)) != 'X' || k == 23))

/-- In this order: `X`, `M`, `H`, `C` — the first letters of the names `get_distance`
    compares a token with, `XC`, `MAR` / `MILE`, `HM`, `CHUNDER-MILE` — then `K` and `x` are no digits; `.`, `H`, `M`, `K` are no
    white space; no digit symbol is a white-space symbol. -/
def numFactsOK : Bool :=
  !isDigitU 'X' && !isDigitU 'M' && !isDigitU 'H' && !isDigitU 'C' && !isDigitU 'K' && !isDigitU 'x' &&
  !isSpaceC '.' && !isSpaceC 'H' && !isSpaceC 'M' && !isSpaceC 'K' &&
  (List.range (Gen.nsym + 1)).all (fun x => !(Gen.digitMask.testBit x && Gen.spaceMask.testBit x))

def sfxMask : Nat := maskOf [symOf 'h', symOf 'H', symOf 'M', symOf 'K']
/-- `\d+(\.\d+)?[hHMK]?` -/
def numLeg : RE :=
  .cat (plusCls Gen.digitMask) (.cat (.alt .eps (.cat (.cls Gen.dotMask) (plusCls Gen.digitMask))) (.alt .eps (.cls sfxMask)))
def legNames : List (List Char) := ["RELAY", "DMR", "SMR", "SDMR", "SSMR", "SWR"].map String.toList
def namesRE : List (List Char) → RE
  | [] => .empty
  | w :: ws => .alt (ciWord w) (namesRE ws)

/-- a relay leg is a number with an optional unit letter, or one of six names in any letter case -/
def legShapeOK : Bool :=
  legNames.all (fun w => w.all (fun c => capitals.contains c && singletonSym c && singletonSym (lowerC c))) &&
  ['h', 'H', 'M', 'K'].all singletonSym &&
  (List.range 26).all (fun k => !isDigitU (Char.ofNat (97 + k))) &&
  (grpBodies 2 (pat "PAT_RELAYS")).all (fun b =>
    RE.emptyK Gen.nsym 100000 (RE.and (toRE [] b) (RE.not (RE.alt numLeg (namesRE legNames)))))

end Codes
end AthlibVerif
