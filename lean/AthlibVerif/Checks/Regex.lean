import AthlibVerif.Model.Regex
/-!
# The emptiness check the obligations evaluate

`emptyK` explores the derivative automaton of an expression like `isEmptyLang` (`Model/Regex.lean`), but takes the
derivatives by the symbols a word of the state can begin with (`first`) only; `closure` is the worklist loop both
explorations are instances of.  Definitions only: the obligations under `Oblig/` evaluate them in the kernel and need
nothing else, so they do not wait for the proofs.  That the loop is closed and the check sound is proved in
`Lemmas/RegexSound.lean` (`closure_closed`, `empty_of_closed`) and `Lemmas/RegexEval.lean` (`emptyK_sound`).
Both checks are sound; `emptyK` is the cheap one and the one a further obligation should evaluate.  `isEmptyLang` stands
where it is cheap enough as it is (the group bodies and leading-number patterns of `Checks/Codes.lean`: at most 8 states)
and inside `eqCheck`, which the C04 equalities pass on its syntactic fast path.
-/
namespace AthlibVerif.RE

/-- One unit of fuel per element taken off the work list.  Out of fuel the answer is `none`, and a check built on it answers
    `false`: too little fuel can refuse a true fact, never accept a false one.  Every obligation passes 100 000, a cap and
    not a proved bound (the explorations on the regenerated patterns end after a few hundred steps). -/
def closure {α : Type} (mem : α → List α → Bool) (next : α → List α) : Nat → List α → List α → Option (List α)
  | 0, _, _ => none
  | _, [], seen => some seen
  | fuel+1, r :: todo, seen =>
    if mem r seen then closure mem next fuel todo seen else closure mem next fuel (next r ++ todo) (r :: seen)

/-- a mask containing every symbol a word of `r` begins with; `all` is the mask of the alphabet -/
def first (all : Nat) : RE → Nat
  | empty => 0 | eps => 0
  | cls m => m
  | cat a b => if a.nullable then first all a ||| first all b else first all a
  | alt a b => first all a ||| first all b
  | star a => first all a
  | and a b => first all a &&& first all b
  | not _ => all

def succs (r : RE) (f : Nat) : Nat → List RE → List RE
  | 0, acc => acc
  | x+1, acc => succs r f x (if f.testBit x then deriv x r :: acc else acc)

def nextK (nsym : Nat) (r : RE) : List RE := succs r (first (2 ^ (nsym + 1) - 1) r) (nsym + 1) []

/-- `true` only if no word over the symbols `0..nsym` is in the language of `r` -/
def emptyK (nsym fuel : Nat) (r : RE) : Bool :=
  match closure (fun r l => l.contains r) (nextK nsym) fuel [r] [] with
  | none => false
  | some seen => seen.all (fun q => !q.nullable)

end AthlibVerif.RE
