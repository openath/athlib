import AthlibVerif.Model.Match
/-!
# What is decided of a pattern with groups

The conditions on a regenerated `GRE` that the matcher theorems assume and the obligations evaluate: within the fuel
budget of `matchFirst` (`fuelOK`), where `$` stands (`noEol`: nowhere; `tailEol`: at the end of every branch and nowhere
else), the bodies of the groups with a given number (`grpBodies`), groups of which every match records at least one
(`mandatory`), and the tie between the two renderings of one pattern (`tieOK`, modulo the order of `x?`: `normOpt`); and the
two shapes `x+` and `x+ y x*` whose first match `Lemmas/Greedy.lean` computes (`plusG`, `floatG`).  Definitions only, so that
`Oblig/C07/Tie.lean` and `Oblig/C10/Groups.lean` evaluate them without waiting for the proofs; what each condition buys is
proved in `Lemmas/MatchSound.lean` and `Lemmas/MatchTie.lean`.
-/
namespace AthlibVerif
namespace GRE

/-- depth of the recursion that does not depend on the input -/
def costA : GRE → Nat
  | .eps => 1 | .cls _ => 1 | .eol _ => 1
  | .cat a b => 1 + max (costA a) (costA b)
  | .alt a b => 1 + max (costA a) (costA b)
  | .star a => 1 + costA a
  | .grp _ a => 1 + costA a

/-- nesting depth of stars: recursion depth per remaining input symbol -/
def costB : GRE → Nat
  | .eps => 0 | .cls _ => 0 | .eol _ => 0
  | .cat a b => max (costB a) (costB b)
  | .alt a b => max (costB a) (costB b)
  | .star a => 1 + costB a
  | .grp _ a => costB a

/-- within `fuelFor` (400 + 40 per input symbol), the fuel `matchFirst` takes: enough for this pattern on every input.  The
    constants are generous: on the regenerated patterns `costA` is at most 66 and `costB` at most 1. -/
def fuelOK (g : GRE) : Bool := costA g ≤ 400 && costB g ≤ 40

def noEol : GRE → Bool
  | .eps => true | .cls _ => true | .eol _ => false
  | .cat a b => noEol a && noEol b
  | .alt a b => noEol a && noEol b
  | .star a => noEol a
  | .grp _ a => noEol a

def tailEol : GRE → Bool
  | .eol _ => true
  | .cat a b => noEol a && tailEol b
  | .alt a b => tailEol a && tailEol b
  | .grp _ a => tailEol a
  | _ => false

def grpBodies (id : Nat) : GRE → List GRE
  | .cat a b => grpBodies id a ++ grpBodies id b
  | .alt a b => grpBodies id a ++ grpBodies id b
  | .star a => grpBodies id a
  | .grp k a => (if k = id then [a] else []) ++ grpBodies id a
  | _ => []

def mandatory (ids : List Nat) : GRE → Bool
  | .cat a b => mandatory ids a || mandatory ids b
  | .alt a b => mandatory ids a && mandatory ids b
  | .grp k a => ids.contains k || mandatory ids a
  | _ => false

/-- `x+` over a class -/
def plusG (m : Nat) : GRE := .cat (.cls m) (.star (.cls m))

/-- `x+ y x*` (`\d+\.\d*` with `x` the digits and `y` the point) -/
def floatG (m y : Nat) : GRE := .cat (plusG m) (.cat (.cls y) (.star (.cls m)))

end GRE

namespace RE

/-- canonical order of an optional part: `ε` first -/
def normOpt : RE → RE
  | alt a b => if normOpt b = eps then alt eps (normOpt a) else alt (normOpt a) (normOpt b)
  | cat a b => cat (normOpt a) (normOpt b)
  | star a => star (normOpt a)
  | and a b => and (normOpt a) (normOpt b)
  | not a => not (normOpt a)
  | empty => empty
  | eps => eps
  | cls m => cls m

end RE

open RE GRE

/-- `g` is within `fuelFor`, anchored (`tailEol`) and, its groups and priorities forgotten, the expression `p` up to the order of
    the two alternatives of an `x?`; then `re.match` with `g` succeeds exactly on the language of `p` (`tie_sound`) -/
def tieOK (g : GRE) (p : RE) : Bool :=
  fuelOK g && tailEol g && (normOpt (toRE [] g) == normOpt p)

end AthlibVerif
