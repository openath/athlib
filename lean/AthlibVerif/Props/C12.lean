import AthlibVerif.Lemmas.PerfText
/-!
# C12 — Performance validation returns plausible, well-formed marks or the given error

Over `Model/Perf.lean`, the transcription of `check_performance_for_discipline` (default `prec=None`) on the
patterns and code tuples regenerated from `athlib/codes.py`.  Proved for all inputs:
* the cascade is total and every failure point of the model is the caller's error class (`refused`): there is
  no other failure outcome (the points where the Python could raise something else — `float()` / `int()` of a
  chunk — are inside `try` blocks, and the correspondence checks that);
* multi-events: an accepted result is `str(p)` for the integer `p ≤ 9999` that was typed;
* field events: an accepted result is a two-decimal rendering, within 1.2 × the record;
* timed events: an accepted time has seconds below 60 whenever a minutes or hours field is printed, and
  minutes below 60 under hours.
The speed window is proved for every parsed text of at most two decimals (`C12_timed_speed_window`); idempotence of timed
results is proved for every printed result to which none of the validator's re-readings applies
(`Perf.timedCore_formatTime`), in particular for plain-seconds results of events shorter than 800 m
(`C12_plain_seconds_idempotent_partial`), for `m:ss` results (no hours field) of every event longer than 200 m
(`C12_mss_idempotent_partial`) and `h:mm:ss` results of every such event whose code is not `800`, `1500` or `3000`
(`C12_hmmss_idempotent_partial`), and for both shapes when the event has no distance.
The hypothesis `getDistance 8 disc = .ok dist` of the timed theorems is the call `Perf.timedCore` makes: 8 is the recursion
fuel of `Codes.getDistance` (`get_distance` calls itself on the leg of a relay; a leg holds no `x`, so 2 would do).
NOT proved (kept as `C12_statement`): idempotence in general — it is false of the code (known findings, see DESIGN.md)
and decided on the implementation by tools/checks/c12.py.
-/
namespace AthlibVerif.Props.C12
open AthlibVerif AthlibVerif.Codes AthlibVerif.Perf

/-- every discipline and text is handled by exactly one branch (the dispatch never fails) -/
theorem C12_dispatch_total (d t : Str) : kindOf d t = .xcBlank ∨ kindOf d t = .durationRace ∨ kindOf d t = .custom ∨
    kindOf d t = .field ∨ kindOf d t = .multi ∨ kindOf d t = .timed := by
  cases kindOf d t <;> simp

/-- **Error class.** The model's outcome is a string, the caller's error (`refused`), or `skip` (a line the
    exact model does not cover) — there is no constructor for "another exception". Stated so that it is not
    vacuous: a text that fails `PAT_PERF` is refused for every field, multi and timed discipline. -/
theorem C12_error_class (d t g : Str) (hk : kindOf d t = .field ∨ kindOf d t = .multi ∨ kindOf d t = .timed)
    (hp : pyMatch "PAT_PERF" (cleanText t) = none) : check d t g = .refused := by
  unfold check
  rcases hk with h | h | h <;> simp [h, hp]

/-- **Multi-events**: an accepted result is the decimal rendering of the typed integer, at most 9999 -/
theorem C12_multi_range (t r : Str) (h : checkMulti t = .ok r) : ∃ p, pyInt t = .ok p ∧ p ≤ 9999 ∧ r = natStr p := by
  unfold checkMulti at h
  split at h
  · cases h
  · next p hp =>
    split at h
    · cases h
    · next hle => injection h with h; exact ⟨p, hp, by omega, h.symm⟩

/-- decided on the regenerated digit blocks: the ten ASCII digits have their values and none is the point.  It discharges
    the hypothesis `hA` wherever a theorem below or in `Lemmas/NatStr`, `Lemmas/PerfText` takes it. -/
theorem ascii_digits : asciiDigitsOK = true := by decide +kernel

/-- re-validating a returned multi-event score returns it unchanged (`int(str(p)) == p` for every `p`) -/
theorem C12_multi_idempotent (t r : Str) (h : checkMulti t = .ok r) : checkMulti r = .ok r := by
  obtain ⟨p, _, hle, rfl⟩ := C12_multi_range t r h
  unfold checkMulti
  rw [pyInt_natStr ascii_digits p]
  simp [show ¬ p > 9999 by omega]

/-- **Field events**: an accepted result is `"%0.2f"` of a distance not above 1.2 × the record -/
theorem C12_field_format (d t g r : Str) (h : checkField d t g = .ok r) :
    ∃ n dn decs, floatOf t = some (n, dn, decs) ∧ r = fmt2 (n * 100 / dn) ∧ tooLarge d g n dn = false := by
  unfold checkField at h
  split at h
  · cases h
  · next n dn decs hf =>
    refine ⟨n, dn, decs, hf, ?_⟩
    by_cases hd : decs > 2
    · simp [hd] at h
    · by_cases hl : tooLarge d g n dn = true
      · simp [hl, hd] at h
      · simp [hl, hd] at h; exact ⟨h.symm, by simpa using hl⟩

/-- the record window, spelled out: accepted distances are at most 1.2 × the record -/
theorem C12_field_window (d g : Str) (n dn rec : Nat) (h : tooLarge d g n dn = false) (hr : recordOf d g = some rec) :
    n * 100 * 5 ≤ rec * 6 * dn := by
  unfold tooLarge at h; rw [hr] at h; simpa using h

theorem timedGuards_time (xc dpos : Bool) (dval hours minutes sn sd sdecs h m c : Nat)
    (hr : timedGuards xc dpos dval hours minutes sn sd sdecs = .time h m c) :
    ((h > 0 ∨ m > 0) → c < 6000) ∧ (h > 0 → m < 60) := by
  obtain ⟨rfl, rfl, rfl, c1, c2, _⟩ := timedGuards_eq_time.1 hr
  exact ⟨fun hm => Nat.div_lt_of_lt_mul (by have := c1 hm; omega), c2⟩

/-- **Timed events**: seconds below 60 whenever minutes or hours are printed; minutes below 60 under hours -/
theorem C12_timed_fields_below_60 (disc : Str) (dist : Option Nat) (h0 m0 sn0 sd0 dc0 h m c : Nat)
    (hr : timedDecide disc dist h0 m0 sn0 sd0 dc0 = .time h m c) :
    ((h > 0 ∨ m > 0) → c < 6000) ∧ (h > 0 → m < 60) := by
  unfold timedDecide at hr
  obtain ⟨_, hr⟩ := refused_else.1 hr
  simp only at hr
  split at hr
  · exact timedGuards_time _ _ _ _ _ _ _ _ h m c (refused_else.1 hr).2
  · exact timedGuards_time _ _ _ _ _ _ _ _ h m c hr

theorem timedCore_time (d t : Str) (h m c : Nat) (hr : timedCore d t = .time h m c) :
    ((h > 0 ∨ m > 0) → c < 6000) ∧ (h > 0 → m < 60) := by
  unfold timedCore at hr
  split at hr
  · cases hr
  · simp only at hr
    split at hr
    · cases hr
    · exact C12_timed_fields_below_60 _ _ _ _ _ _ _ h m c hr

/-- what an accepted time satisfies, in units of 1/sd s: not more than two decimals, a positive duration inside the
    speed window (at most 11 m/s up to 400 m, 10 m/s beyond; at least 0.5 m/s) -/
theorem timedGuards_speed (xc : Bool) (dval hours minutes sn sd sdecs h m c : Nat)
    (hr : timedGuards xc true dval hours minutes sn sd sdecs = .time h m c) :
    h = hours ∧ m = minutes ∧ c = sn * 100 / sd ∧ sdecs ≤ 2 ∧
    0 < (3600 * hours + 60 * minutes) * sd + sn ∧
    (dval ≤ 400 → dval * sd ≤ 11 * ((3600 * hours + 60 * minutes) * sd + sn)) ∧
    (400 < dval → dval * sd ≤ 10 * ((3600 * hours + 60 * minutes) * sd + sn)) ∧
    (3600 * hours + 60 * minutes) * sd + sn ≤ 2 * dval * sd := by
  obtain ⟨e1, e2, e3, _, _, hk, hs, _⟩ := timedGuards_eq_time.1 hr
  exact ⟨e1, e2, e3, hk, speedBad_eq_false.1 hs rfl⟩

/-- **Timed events, speed window**: for an event with a distance `d`, the time that is returned — `h:mm:ss.cc`, that
    is `D = (3600 h + 60 m)·100 + c` hundredths of a second — is positive and implies a speed `d / (D/100)` of at most
    11 m/s (up to 400 m) or 10 m/s (beyond) and at least 0.5 m/s.  For every parsed text of at most two decimals
    (`sd0 = 10 ^ dc0`, as `floatOf` returns it); texts with more decimals are `skip` in the model. -/
theorem C12_timed_speed_window (disc : Str) (d : Nat) (hd : 0 < d) (h0 m0 sn0 dc0 h m c : Nat)
    (hr : timedDecide disc (some d) h0 m0 sn0 (10 ^ dc0) dc0 = .time h m c) :
    0 < (3600 * h + 60 * m) * 100 + c ∧
    (d ≤ 400 → d * 100 ≤ 11 * ((3600 * h + 60 * m) * 100 + c)) ∧
    (400 < d → d * 100 ≤ 10 * ((3600 * h + 60 * m) * 100 + c)) ∧
    (3600 * h + 60 * m) * 100 + c ≤ 2 * d * 100 := by
  have hg := (timedDecide_centi hr).1
  simp only [dposOf_some, hd, decide_true, Option.getD_some] at hg
  obtain ⟨_, _, _, _, hwin⟩ := timedGuards_speed _ _ _ _ _ _ _ _ _ _ hg
  exact hwin

/-- non-vacuity: 400 m in 63:40 (read as 63.40 s) and 1500 m in 3:45.6 are accepted -/
example : timedDecide "400".toList (some 400) 0 63 40 (10 ^ 0) 0 = .time 0 0 6340 := by decide
example : timedDecide "1500".toList (some 1500) 0 3 456 (10 ^ 1) 1 = .time 0 3 4560 := by decide
/-- and a zero time is refused -/
example : timedDecide "100".toList (some 100) 0 0 0 (10 ^ 0) 0 = .refused := by decide

/-- `int(str(n)) == n` for every `n` -/
theorem C12_int_str_roundtrip (n : Nat) : pyInt (natStr n) = .ok n := pyInt_natStr ascii_digits n

/-- **The field branch is idempotent**: `checkField` returns a distance it has returned unchanged — for every event,
    gender and text (within the modelled two-decimal domain).  This is the branch behind the `PAT_PERF` gate of `check`,
    not `check`: a returned distance of 100 m or more (`JT` `123` → `123.00`) does not pass the gate again (known finding
    `C12-field-three-digit-metres`). -/
theorem C12_field_idempotent (d t g r : Str) (h : checkField d t g = .ok r) : checkField d r g = .ok r := by
  obtain ⟨n, dn, decs, hf, rfl, hl⟩ := C12_field_format d t g r h
  have hfl := floatOf_fmt2 ascii_digits (n * 100 / dn)
  have hnl : tooLarge d g (n * 100 / dn) 100 = false := by
    unfold tooLarge at hl ⊢
    split
    · next rec hrec =>
      rw [hrec] at hl
      simp only [decide_eq_false_iff_not, Nat.not_lt] at hl ⊢
      by_cases hdn : dn = 0
      · subst hdn; simp
      · have h1 : n * 100 / dn * dn ≤ n * 100 := Nat.div_mul_le_self _ _
        generalize n * 100 / dn = q at h1 ⊢
        have h3 : (q * 5) * dn ≤ (rec * 6) * dn := by
          calc (q * 5) * dn = (q * dn) * 5 := by ac_rfl
            _ ≤ (n * 100) * 5 := Nat.mul_le_mul_right _ h1
            _ ≤ rec * 6 * dn := hl
        have h4 := Nat.le_of_mul_le_mul_right h3 (Nat.pos_of_ne_zero hdn)
        omega
    · rfl
  unfold checkField
  simp only [hfl, hnl, show ¬ (2 > 2) by omega, if_false, Bool.false_eq_true]
  have : n * 100 / dn * 100 / 100 = n * 100 / dn := Nat.mul_div_cancel _ (by omega)
  rw [this]

theorem timedDecide_plain_lt (disc : Str) (d : Nat) (hd : 0 < d) (h0 m0 sn0 dc0 c : Nat)
    (hr : timedDecide disc (some d) h0 m0 sn0 (10 ^ dc0) dc0 = .time 0 0 c) : c < 10000 :=
  (timedDecide_centi hr).2 rfl

theorem checkTimed_of_fixed (disc t : Str) (h m c : Nat) (hr : timedCore disc t = .time h m c)
    (h2 : timedCore disc (formatTime h m c) = .time h m c) :
    checkTimed disc t = .ok (formatTime h m c) ∧ checkTimed disc (formatTime h m c) = .ok (formatTime h m c) := by
  unfold checkTimed
  rw [hr, h2]
  exact ⟨rfl, rfl⟩

/-- **A plain-seconds result is accepted unchanged when validated again** (idempotence, partial): for an event with a
    distance below 800 m, if a text is accepted as a time of `c` hundredths printed without a minutes field, then
    `c < 10000`, the printed result is `"%0.2f"` of it (`fmt2 c`, at most five characters, so nothing is stripped), and
    validating that result again accepts it as the same time. -/
theorem C12_plain_seconds_idempotent_partial (hA : asciiDigitsOK = true) (disc t : Str) (d c : Nat)
    (hg : getDistance 8 disc = .ok (some d))
    (hd : 0 < d) (h800 : d < 800) (hr : timedCore disc t = .time 0 0 c) :
    c < 10000 ∧ formatTime 0 0 c = fmt2 c ∧ timedCore disc (fmt2 c) = .time 0 0 c := by
  obtain ⟨h0, m0, sn0, dc0, hdec⟩ := timedCore_decided hg hr
  have hlt := (timedDecide_centi hdec).2 rfl
  have hfmt : formatTime 0 0 c = fmt2 c := stripTime_short _ (fmt2_length c hlt)
  refine ⟨hlt, hfmt, ?_⟩
  rw [← hfmt]
  apply timedCore_formatTime hA disc t _ 0 0 c hg hr
  case hlo => -- colon read as point: only with a minutes or hours field
    intro h
    omega
  case hhi => -- point read as colon: only from 800 m
    intro _ _ d' e
    cases e
    exact h800
  case hno => -- `h:mm:ss` read as `mm:ss.cc`: only with an hours field
    intro h
    omega

/-- the same on the level of the validator's timed branch: the text it returns is `"%0.2f"` of the time, and that text
    is returned unchanged when validated again -/
theorem C12_plain_seconds_returned_unchanged (hA : asciiDigitsOK = true) (disc t : Str) (d c : Nat)
    (hg : getDistance 8 disc = .ok (some d))
    (hd : 0 < d) (h800 : d < 800) (hr : timedCore disc t = .time 0 0 c) :
    checkTimed disc t = .ok (fmt2 c) ∧ checkTimed disc (fmt2 c) = .ok (fmt2 c) := by
  obtain ⟨_, hfmt, h2⟩ := C12_plain_seconds_idempotent_partial hA disc t d c hg hd h800 hr
  rw [← hfmt] at h2 ⊢
  exact checkTimed_of_fixed disc t 0 0 c hr h2

/-- non-vacuity: 100 m in 10.5 (typed with one decimal) is such a case -/
example : (match getDistance 8 "100".toList with | .ok (some 100) => true | _ => false) = true ∧
    timedCore "100".toList "10.5".toList = .time 0 0 1050 := by decide +kernel

/-- an event shorter than 800 m has no result with an hours field (it would be slower than 0.5 m/s) -/
theorem C12_no_hours_below_800 (disc t : Str) (d h m c : Nat) (hg : getDistance 8 disc = .ok (some d)) (hd : 0 < d)
    (h800 : d < 800) (hr : timedCore disc t = .time h m c) : h = 0 := by
  obtain ⟨h0, m0, sn0, dc0, hdec⟩ := timedCore_decided hg hr
  obtain ⟨_, _, _, hslow⟩ := C12_timed_speed_window disc d hd h0 m0 sn0 dc0 h m c hdec
  omega

/-- **An `m:ss` result of an event longer than 200 m is accepted unchanged when validated again** (idempotence,
    partial): for an event with a distance above 200 m (up to 200 m a colon without a point is re-read as a point: the
    known finding), a result with a minutes field and no hours field has seconds below 60, and — printed `"%d:%05.2f"`
    with trailing zeros and a trailing point stripped — is read back as the same minutes and hundredths and passes the
    checks again.  None of the re-readings applies: the stop-for-colon one needs a text without a colon, the `a:b:c`
    one of 800 / 1500 / 3000 needs three fields, the 400 m `63:40` one more than 45 minutes (excluded by the speed
    window). -/
theorem C12_mss_idempotent_partial (hA : asciiDigitsOK = true) (disc t : Str) (d m c : Nat)
    (hg : getDistance 8 disc = .ok (some d)) (h200 : 200 < d) (hm : 0 < m) (hr : timedCore disc t = .time 0 m c) :
    c < 6000 ∧ timedCore disc (formatTime 0 m c) = .time 0 m c := by
  refine ⟨(timedCore_time disc t 0 m c hr).1 (Or.inr hm),
    timedCore_formatTime hA disc t _ 0 m c hg hr (hlo := ?hlo) (hhi := ?hhi) (hno := ?hno)⟩
  case hlo => -- colon read as point: only up to 200 m
    intro _ _ d' e
    cases e
    exact Or.inr h200
  case hhi => -- point read as colon: only without a minutes field
    intro _ hm0
    omega
  case hno => -- `h:mm:ss` read as `mm:ss.cc`: only with an hours field
    intro hh
    omega

/-- the same on the level of the validator's timed branch -/
theorem C12_mss_returned_unchanged (hA : asciiDigitsOK = true) (disc t : Str) (d m c : Nat)
    (hg : getDistance 8 disc = .ok (some d)) (h200 : 200 < d) (hm : 0 < m) (hr : timedCore disc t = .time 0 m c) :
    checkTimed disc t = .ok (formatTime 0 m c) ∧ checkTimed disc (formatTime 0 m c) = .ok (formatTime 0 m c) :=
  checkTimed_of_fixed disc t 0 m c hr (C12_mss_idempotent_partial hA disc t d m c hg h200 hm hr).2

/-- non-vacuity: 600 m in 1:35.5, returned as `1:35.5` -/
example : (match getDistance 8 "600".toList with | .ok (some 600) => true | _ => false) = true ∧
    timedCore "600".toList "1:35.50".toList = .time 0 1 3550 ∧ formatTime 0 1 3550 = "1:35.5".toList := by decide +kernel
/-- and 1500 m in 3:45.60 -/
example : (match getDistance 8 "1500".toList with | .ok (some 1500) => true | _ => false) = true ∧
    timedCore "1500".toList "3:45.60".toList = .time 0 3 4560 ∧ formatTime 0 3 4560 = "3:45.6".toList := by decide +kernel

/-- **An `h:mm:ss` result is accepted unchanged when validated again** (idempotence, partial), for every event longer
    than 200 m whose code is not one of `800`, `1500`, `3000` (for those a text of three fields without a point is
    re-read as `mm:ss.cc`: the known finding `C12-idempotence-3000-hmmss`). -/
theorem C12_hmmss_idempotent_partial (hA : asciiDigitsOK = true) (disc t : Str) (d h m c : Nat)
    (hg : getDistance 8 disc = .ok (some d)) (h200 : 200 < d) (hh : 0 < h)
    (hno : strIn disc ["800", "1500", "3000"] = false) (hr : timedCore disc t = .time h m c) :
    m < 60 ∧ c < 6000 ∧ timedCore disc (formatTime h m c) = .time h m c := by
  obtain ⟨hc, hm⟩ := timedCore_time disc t h m c hr
  -- `hno`, `h:mm:ss` read as `mm:ss.cc`: only for the three codes
  refine ⟨hm hh, hc (Or.inl hh),
    timedCore_formatTime hA disc t _ h m c hg hr (hlo := ?hlo) (hhi := ?hhi) (hno := fun _ _ => hno)⟩
  case hlo => -- colon read as point: only up to 200 m
    intro _ _ d' e
    cases e
    exact Or.inr h200
  case hhi => -- point read as colon: only without an hours field
    intro h0
    omega

theorem C12_hmmss_returned_unchanged (hA : asciiDigitsOK = true) (disc t : Str) (d h m c : Nat)
    (hg : getDistance 8 disc = .ok (some d)) (h200 : 200 < d) (hh : 0 < h)
    (hno : strIn disc ["800", "1500", "3000"] = false) (hr : timedCore disc t = .time h m c) :
    checkTimed disc t = .ok (formatTime h m c) ∧ checkTimed disc (formatTime h m c) = .ok (formatTime h m c) :=
  checkTimed_of_fixed disc t h m c hr (C12_hmmss_idempotent_partial hA disc t d h m c hg h200 hh hno hr).2.2

/-- non-vacuity: a marathon in 2:10:00.00, returned as `2:10:00` -/
example : (match getDistance 8 "MAR".toList with | .ok (some 42195) => true | _ => false) = true ∧
    strIn "MAR".toList ["800", "1500", "3000"] = false ∧
    timedCore "MAR".toList "2:10:00.00".toList = .time 2 10 0 ∧ formatTime 2 10 0 = "2:10:00".toList := by decide +kernel
/-- and the excluded case: `3000` in 1:02:03.00 is returned as `1:02:03`, which is refused -/
example : timedCore "3000".toList "1:02:03.00".toList = .time 1 2 300 ∧ formatTime 1 2 300 = "1:02:03".toList ∧
    timedCore "3000".toList "1:02:03".toList = .refused := by decide +kernel

/-- what an accepted time of an event without a distance satisfies (no speed window there) -/
theorem timedDecide_nodist (disc : Str) (h0 m0 sn0 sd0 dc0 h m c : Nat)
    (hr : timedDecide disc none h0 m0 sn0 sd0 dc0 = .time h m c) :
    ((h > 0 ∨ m > 0) → c < 6000) ∧ (h > 0 → m < 60) ∧ (strEq (upper disc) "XC" = true → h > 0 ∨ m > 0) := by
  obtain ⟨a, b⟩ := C12_timed_fields_below_60 disc none h0 m0 sn0 sd0 dc0 h m c hr
  refine ⟨a, b, fun hx => ?_⟩
  unfold timedDecide at hr
  obtain ⟨_, hr⟩ := refused_else.1 hr
  -- no distance is not 400 m: the `63:40` re-reading is off
  rw [if_neg (by simp)] at hr
  obtain ⟨rfl, rfl, _, _, _, _, _, hxc⟩ := timedGuards_eq_time.1 hr
  false_or_by_contra
  have := (hxc hx (by omega) (by omega)).1
  cases this

/-- **Events without a distance** (`XC`): an `m:ss` result is a fixed point of the timed branch — no speed window and none
    of the distance-dependent re-readings there. -/
theorem C12_mss_idempotent_nodist (hA : asciiDigitsOK = true) (disc t : Str) (m c : Nat)
    (hg : getDistance 8 disc = .ok none) (hm : 0 < m) (hr : timedCore disc t = .time 0 m c) :
    c < 6000 ∧ timedCore disc (formatTime 0 m c) = .time 0 m c := by
  refine ⟨(timedCore_time disc t 0 m c hr).1 (Or.inr hm),
    timedCore_formatTime hA disc t _ 0 m c hg hr (hlo := ?hlo) (hhi := ?hhi) (hno := ?hno)⟩
  case hlo => -- colon read as point: only with a distance
    intro _ _ _ e
    cases e
  case hhi => -- point read as colon: only without a minutes field
    intro _ hm0
    omega
  case hno => -- `h:mm:ss` read as `mm:ss.cc`: only with an hours field
    intro hh
    omega

/-- … and so is an `h:mm:ss` result (codes other than `800`, `1500`, `3000`, which have a distance anyway) -/
theorem C12_hmmss_idempotent_nodist (hA : asciiDigitsOK = true) (disc t : Str) (h m c : Nat)
    (hg : getDistance 8 disc = .ok none) (hh : 0 < h)
    (hno : strIn disc ["800", "1500", "3000"] = false) (hr : timedCore disc t = .time h m c) :
    m < 60 ∧ c < 6000 ∧ timedCore disc (formatTime h m c) = .time h m c := by
  obtain ⟨hc, hm⟩ := timedCore_time disc t h m c hr
  -- `hno`, `h:mm:ss` read as `mm:ss.cc`: only for the three codes
  refine ⟨hm hh, hc (Or.inl hh),
    timedCore_formatTime hA disc t _ h m c hg hr (hlo := ?hlo) (hhi := ?hhi) (hno := fun _ _ => hno)⟩
  case hlo => -- colon read as point: only with a distance
    intro _ _ _ e
    cases e
  case hhi => -- point read as colon: only without an hours field
    intro h0
    omega

/-- non-vacuity: a cross-country run in 21:30, and in 1:02:03.5 -/
example : (match getDistance 8 "XC".toList with | .ok none => true | _ => false) = true ∧
    timedCore "XC".toList "21:30".toList = .time 0 21 3000 ∧ formatTime 0 21 3000 = "21:30".toList ∧
    timedCore "XC".toList "1:02:03.5".toList = .time 1 2 350 := by decide +kernel

/-- idempotence in general: NOT proved, and false of the code (the known findings) -/
def C12_statement : Prop :=
  ∀ d t g r, check d t g = .ok r → check d r g = .ok r

/-! non-vacuity (kernel-evaluated on the regenerated patterns): the test-suite examples -/
example : check "800".toList "2.33".toList "all".toList = .ok "2:33".toList := by decide +kernel
example : check "DEC".toList "5875".toList "all".toList = .ok "5875".toList := by decide +kernel
example : check "HJ".toList "25".toList "all".toList = .refused := by decide +kernel
example : check "100".toList "4:05:33".toList "all".toList = .refused := by decide +kernel

end AthlibVerif.Props.C12
