import AthlibVerif.Lemmas.Wma
import AthlibVerif.Oblig.C14.Pos2015
import AthlibVerif.Oblig.C14.Pos2023
import AthlibVerif.Oblig.C14.PosAthlons
import AthlibVerif.Oblig.C14.Spelling2015M
import AthlibVerif.Oblig.C14.Spelling2015F
import AthlibVerif.Oblig.C14.Spelling2023M
import AthlibVerif.Oblig.C14.Spelling2023F
import AthlibVerif.Oblig.C14.SpellingAthlonsM
import AthlibVerif.Oblig.C14.SpellingAthlonsF
import AthlibVerif.Gen.WmaData
/-!
# C14 — WMA age grading is defined, consistent and spelling-independent on its domain

Theorems about the exact model `Model/Wma.lean` (the repaired behaviour, see `fixes/wma-*.diff`), for
**every** table satisfying the decidable side-conditions of `Model/WmaChecks.lean`, every gender
spelling, event code, rational age and rational performance; the side-conditions are kernel-decided
for the regenerated tables in `Oblig/C14/*` and instantiated at the end of this file.  That the
implementation computes the model's values (floats within 1e-9 relative) is the correspondence
`tools/checks/c14.py`.
-/
namespace AthlibVerif.Props.C14
open AthlibVerif AthlibVerif.Wma

theorem C14_interp_pos (p x y : Rat) (h0 : 0 ≤ p) (h1 : p ≤ 1) (hx : 0 < x) (hy : 0 < y) :
    0 < (1 - p) * x + p * y := lerp_pos h0 h1 hx hy

/-- **factor positivity** — whenever the model returns a factor (tabulated event: age interpolation
    between two columns; other run codes: distance interpolation of two such values) it is a positive
    rational, for every table whose non-null entries are positive -/
theorem C14_factor_pos (t : Table) (hOK : factorsOK t = true) (gender : String) (age : Rat) (event : String)
    (hint : Option Nat) (x : Rat) (h : factor t gender age event hint = .ok x) : 0 < x := by
  obtain ⟨hs, _, _, hrows⟩ := factorsOK_spec t hOK
  unfold factor at h
  split at h
  · exact absurd h (by simp)
  · split at h
    · exact absurd h (by simp)
    · rename_i g _
      unfold factorCore at h
      split at h
      · rename_i r hr
        exact rowFactor_pos t r age x hs (hrows g r (List.mem_of_find?_eq_some hr)).2 h
      · split at h
        · exact absurd h (by simp)
        · exact factorByDistance_pos t (t.rows g) age _ x hs (fun r hr => (hrows g r hr).2) h

/-- combined events: the factor is `1` below the first masters band, else a positive table entry -/
theorem C14_athlon_factor_pos (t : Table) (hOK : factorsOK t = true) (minAge : Nat) (gender : String)
    (age : Rat) (event : String) (x : Rat) (h : athlonFactor t minAge gender age event = .ok x) : 0 < x := by
  obtain ⟨hs, _, _, hrows⟩ := factorsOK_spec t hOK
  unfold athlonFactor at h
  split at h
  · injection h with h; subst h; norm_num
  · split at h
    · exact absurd h (by simp)
    · split at h
      · exact absurd h (by simp)
      · rename_i g _
        split at h
        · exact absurd h (by simp)
        · rename_i r hr
          simp only at h
          split at h
          · rename_i n hn
            injection h with h; subst h
            exact facQ_pos t n hs (cell_pos_of_getD (hrows g r (List.mem_of_find?_eq_some hr)).2 hn)
          · exact absurd h (by simp)

/-- the open best of a tabulated event is positive when the table's bests are -/
theorem C14_best_pos_tabulated (t : Table) (hB : bestsOK t = true) (g : Gender) (ev : String) (hint : Option Nat)
    (r : Row) (hr : (t.rows g).find? (fun r => r.event == ev) = some r) :
    bestCore t g ev hint = .ok (t.bestQ r) ∧ 0 < t.bestQ r := by
  obtain ⟨hbs, _, hall⟩ := bestsOK_spec t hB
  exact ⟨by unfold bestCore; rw [hr], bestQ_pos t r hbs (hall g r (List.mem_of_find?_eq_some hr))⟩

/-- **grade definition** — with open best `b`, factor `f` (both returned by the model, hence for the
    same normalised gender and event) and a positive performance: the grade is
    `(b / f) / time` for timed kinds and `mark / (b / f)` for field kinds -/
theorem C14_grade_def (t : Table) (gender : String) (age : Rat) (event : String) (perf : Rat) (hint : Option Nat)
    (k : Kind) (b f : Rat) (hk : kindOf event = some k)
    (hb : best t gender event hint = .ok b) (hf : factor t gender age event hint = .ok f)
    (hbpos : 0 < b) (hfpos : 0 < f) (hp : 0 < perf) :
    grade t gender age event perf hint = .ok (if k.timed then (b / f) / perf else perf / (b / f)) := by
  unfold best at hb; unfold factor at hf; unfold grade
  rw [hk] at hb hf ⊢
  simp only at hb hf ⊢
  split at hb
  · exact absurd hb (by simp)
  · rename_i g hg
    rw [hg] at hf
    simp only at hf ⊢
    unfold gradeCore
    rw [hb, hf]
    simp only
    unfold gradeOf
    have hstd : 0 < b / f := div_pos hbpos hfpos
    rw [if_neg (ne_of_gt hfpos)]
    cases k.timed
    · simp only [Bool.false_eq_true, if_false]; rw [if_neg (ne_of_gt hstd)]
    · simp only [if_true]; rw [if_neg (ne_of_gt hp)]

/-- conversely every grade the model returns is built from the model's best and factor that way -/
theorem C14_grade_def_conv (t : Table) (gender : String) (age : Rat) (event : String) (perf : Rat)
    (hint : Option Nat) (x : Rat) (h : grade t gender age event perf hint = .ok x) :
    ∃ k b f, kindOf event = some k ∧ best t gender event hint = .ok b ∧ factor t gender age event hint = .ok f ∧
      x = (if k.timed then (b / f) / perf else perf / (b / f)) := by
  unfold grade at h
  split at h
  · exact absurd h (by simp)
  · rename_i k hk
    split at h
    · exact absurd h (by simp)
    · rename_i g hg
      unfold gradeCore at h
      split at h
      · exact absurd h (by simp)
      · rename_i b hb
        split at h
        · exact absurd h (by simp)
        · rename_i f hf
          refine ⟨k, b, f, hk, ?_, ?_, ?_⟩
          · unfold best; rw [hk]; simp only; rw [hg]; exact hb
          · unfold factor; rw [hk]; simp only; rw [hg]; exact hf
          · unfold gradeOf at h
            split at h
            · exact absurd h (by simp)
            · simp only at h
              cases hkt : k.timed
              · rw [hkt] at h; simp only [Bool.false_eq_true, if_false] at h ⊢
                split at h
                · exact absurd h (by simp)
                · injection h with h; exact h.symm
              · rw [hkt] at h; simp only [if_true] at h ⊢
                split at h
                · exact absurd h (by simp)
                · injection h with h; exact h.symm

/-- **unit** — at an age whose factor is 1 the open best performance grades exactly 1 -/
theorem C14_unit (t : Table) (gender : String) (age : Rat) (event : String) (hint : Option Nat) (k : Kind) (b : Rat)
    (hk : kindOf event = some k) (hb : best t gender event hint = .ok b)
    (hf : factor t gender age event hint = .ok 1) (hbpos : 0 < b) :
    grade t gender age event b hint = .ok 1 := by
  rw [C14_grade_def t gender age event b hint k b 1 hk hb hf hbpos (by norm_num) hbpos]
  have : b ≠ 0 := ne_of_gt hbpos
  cases k.timed <;> simp [this]

/-- **monotone** — a better performance grades strictly higher: a shorter time for timed kinds,
    a longer mark for field kinds -/
theorem C14_grade_mono (t : Table) (gender : String) (age : Rat) (event : String) (hint : Option Nat)
    (k : Kind) (b f p p' : Rat) (hk : kindOf event = some k)
    (hb : best t gender event hint = .ok b) (hf : factor t gender age event hint = .ok f)
    (hbpos : 0 < b) (hfpos : 0 < f) (hp : 0 < p) (hpp : p < p') :
    ∃ x x', grade t gender age event p hint = .ok x ∧ grade t gender age event p' hint = .ok x' ∧
      (if k.timed then x' < x else x < x') := by
  refine ⟨_, _, C14_grade_def t gender age event p hint k b f hk hb hf hbpos hfpos hp,
    C14_grade_def t gender age event p' hint k b f hk hb hf hbpos hfpos (lt_trans hp hpp), ?_⟩
  have hstd : 0 < b / f := div_pos hbpos hfpos
  cases k.timed
  · simp only [Bool.false_eq_true, if_false]
    exact div_lt_div_of_pos_right hpp hstd
  · simp only [if_true]
    exact div_lt_div_of_pos_left hstd hp hpp

/-- **letter case** — two codes with the same upper-case form that are measured the same way (both
    timed, both field, or both refused) give the same factor, best and grade -/
theorem C14_case_insensitive (t : Table) (gender : String) (age : Rat) (e e' : String) (perf : Rat)
    (hint : Option Nat) (hu : upper e = upper e')
    (hk : (kindOf e).map Kind.timed = (kindOf e').map Kind.timed) :
    factor t gender age e hint = factor t gender age e' hint ∧
    best t gender e hint = best t gender e' hint ∧
    grade t gender age e perf hint = grade t gender age e' perf hint := by
  unfold factor best grade
  cases h1 : kindOf e <;> cases h2 : kindOf e' <;> rw [h1, h2] at hk <;> simp only [Option.map] at hk
  · exact ⟨rfl, rfl, rfl⟩
  · exact absurd hk (by simp)
  · exact absurd hk (by simp)
  · injection hk with hk
    simp [hu, hk]

/-- for a tabulated event of a table whose names pass `caseOK`: the lower-case spelling is either
    refused as an event code (`5m` means five metres) or gives the same factor, best and grade -/
theorem C14_case_tabulated (rows : List Row) (hc : caseOK rows = true) (r : Row) (hr : r ∈ rows)
    (t : Table) (gender : String) (age perf : Rat) (hint : Option Nat) :
    kindOf (r.event.map Char.toLower) = none ∨
    (factor t gender age (r.event.map Char.toLower) hint = factor t gender age r.event hint ∧
     best t gender (r.event.map Char.toLower) hint = best t gender r.event hint ∧
     grade t gender age (r.event.map Char.toLower) perf hint = grade t gender age r.event perf hint) := by
  have h := List.all_eq_true.mp hc r hr
  simp only [Bool.and_eq_true, beq_iff_eq] at h
  obtain ⟨hu, hm⟩ := h
  have hlo : (r.event.map Char.toLower).toList = r.event.toList.map Char.toLower := String.toList_map
  have hup : upper (r.event.map Char.toLower) = upper r.event :=
    String.ext (by unfold upper; rw [String.toList_map, String.toList_map, String.toList_map, hu])
  have hk1 : kindOf (r.event.map Char.toLower) = kindOfL (r.event.toList.map Char.toLower) := by
    unfold kindOf; rw [hlo]
  rw [hk1]
  cases h1 : kindOfL (r.event.toList.map Char.toLower) with
  | none => exact Or.inl rfl
  | some k =>
    right
    rw [h1] at hm
    cases h2 : kindOfL r.event.toList with
    | none => rw [h2] at hm; exact absurd hm (by simp)
    | some k' =>
      rw [h2] at hm
      simp only [beq_iff_eq] at hm
      exact C14_case_insensitive t gender age _ _ perf hint hup
        (by rw [hk1, h1]; unfold kindOf; rw [h2]; simp [hm])

/-- **gender spelling** — the answers depend on the gender only through `normGender` … -/
theorem C14_gender_spelling (t : Table) (g g' : String) (age : Rat) (e : String) (perf : Rat) (hint : Option Nat)
    (h : normGender g = normGender g') :
    factor t g age e hint = factor t g' age e hint ∧ best t g e hint = best t g' e hint ∧
    grade t g age e perf hint = grade t g' age e perf hint := by
  unfold factor best grade
  simp [h]

/-- … which looks at the first letter only, in either case … -/
theorem C14_gender_first_letter (g g' : String)
    (h : g.toList.head?.map Char.toLower = g'.toList.head?.map Char.toLower) : normGender g = normGender g' := by
  unfold normGender
  cases h1 : g.toList.head? <;> cases h2 : g'.toList.head? <;> rw [h1, h2] at h <;> simp at h
  · simp [h]

/-- … and `normGender` refuses (`.error .value`) every string whose first letter is not one of `m`/`M`/`f`/`F`, the
    empty string included (what athlib raises for the empty string is not claimed here) -/
theorem C14_gender_reject (g : String)
    (h : ∀ c, g.toList.head? = some c → c.toLower ≠ 'm' ∧ c.toLower ≠ 'f') : normGender g = .error .value := by
  unfold normGender
  cases h1 : g.toList.head? with
  | none => rfl
  | some c => simp only; rw [if_neg (h c h1).1, if_neg (h c h1).2]

example : normGender "m" = .ok .m ∧ normGender "M" = .ok .m ∧ normGender "male" = .ok .m ∧
    normGender "Male" = .ok .m ∧ normGender "MALE" = .ok .m ∧ normGender "f" = .ok .f ∧
    normGender "F" = .ok .f ∧ normGender "Female" = .ok .f ∧ normGender "x" = .error .value ∧
    normGender "" = .error .value := by decide

/-- **clamp** — every age at or beyond the last age column `L` gets the factor of `L`
    (for tabulated and for distance-interpolated events alike) -/
theorem C14_clamp_last (t : Table) (hOK : factorsOK t = true) (gender : String) (age : Rat) (event : String)
    (hint : Option Nat) (L : Nat) (hL : t.ages.getLast? = some L) (hpos : 0 < L) (h : (L : Rat) ≤ age) :
    factor t gender age event hint = factor t gender (L : Rat) event hint := by
  obtain ⟨_, hsorted, _⟩ := factorsOK_spec t hOK
  have f1 := findAge_clamp t.ages hsorted L hL hpos age h
  have f2 := findAge_clamp t.ages hsorted L hL hpos L (le_refl _)
  unfold factor
  simp only [fun g => factorCore_congr t g age (L : Rat) (upper event) hint (f1.trans f2.symm)]

/-- … and that factor is the last column's entry itself for a tabulated event -/
theorem C14_clamp_last_cell (t : Table) (hOK : factorsOK t = true) (r : Row) (age : Rat) (L : Nat)
    (hL : t.ages.getLast? = some L) (hpos : 0 < L) (h : (L : Rat) ≤ age) :
    rowFactor t r age = match r.facs.getD (t.ages.length - 1) none with
      | some x => .ok (t.facQ x)
      | none => .error .noFactor := by
  obtain ⟨_, hsorted, _⟩ := factorsOK_spec t hOK
  unfold rowFactor
  rw [findAge_clamp t.ages hsorted L hL hpos age h]
  simp only
  cases r.facs.getD (t.ages.length - 1) none with
  | none => rfl
  | some x => simp only [lerp_self]

theorem C14_factor_pos_2015 (gender : String) (age : Rat) (event : String) (hint : Option Nat) (x : Rat)
    (h : factor Gen.wma2015 gender age event hint = .ok x) : 0 < x :=
  C14_factor_pos Gen.wma2015 Oblig.C14.factors_ok_2015 gender age event hint x h
theorem C14_factor_pos_2023 (gender : String) (age : Rat) (event : String) (hint : Option Nat) (x : Rat)
    (h : factor Gen.wma2023 gender age event hint = .ok x) : 0 < x :=
  C14_factor_pos Gen.wma2023 Oblig.C14.factors_ok_2023 gender age event hint x h
theorem C14_factor_pos_athlons (gender : String) (age : Rat) (event : String) (x : Rat)
    (h : athlonFactor Gen.wmaAthlons Gen.wmaMinAge gender age event = .ok x) : 0 < x :=
  C14_athlon_factor_pos Gen.wmaAthlons Oblig.C14.factors_ok_athlons Gen.wmaMinAge gender age event x h
/-- the last columns are 100 (2015) and 110 (2023) on the pinned tree; whatever they are after a
    regeneration, every age from there on gets that column -/
theorem C14_clamp_last_2015 (gender : String) (age : Rat) (event : String) (hint : Option Nat) (L : Nat)
    (hL : Gen.wma2015.ages.getLast? = some L) (hpos : 0 < L) (h : (L : Rat) ≤ age) :
    factor Gen.wma2015 gender age event hint = factor Gen.wma2015 gender (L : Rat) event hint :=
  C14_clamp_last Gen.wma2015 Oblig.C14.factors_ok_2015 gender age event hint L hL hpos h
theorem C14_clamp_last_2023 (gender : String) (age : Rat) (event : String) (hint : Option Nat) (L : Nat)
    (hL : Gen.wma2023.ages.getLast? = some L) (hpos : 0 < L) (h : (L : Rat) ≤ age) :
    factor Gen.wma2023 gender age event hint = factor Gen.wma2023 gender (L : Rat) event hint :=
  C14_clamp_last Gen.wma2023 Oblig.C14.factors_ok_2023 gender age event hint L hL hpos h

/-- every tabulated event of every regenerated table, in lower case -/
theorem C14_case_tabulated_all (rows : List Row)
    (h : rows ∈ [Gen.wma2015.m, Gen.wma2015.f, Gen.wma2023.m, Gen.wma2023.f, Gen.wmaAthlons.m, Gen.wmaAthlons.f])
    (r : Row) (hr : r ∈ rows) (t : Table) (gender : String) (age perf : Rat) (hint : Option Nat) :
    kindOf (r.event.map Char.toLower) = none ∨
    (factor t gender age (r.event.map Char.toLower) hint = factor t gender age r.event hint ∧
     best t gender (r.event.map Char.toLower) hint = best t gender r.event hint ∧
     grade t gender age (r.event.map Char.toLower) perf hint = grade t gender age r.event perf hint) := by
  have hc : caseOK rows = true := by
    have key : ∀ rs, spellingOK rs = true → caseOK rs = true := fun rs h => by
      unfold spellingOK at h; simp only [Bool.and_eq_true] at h; exact h.2
    simp only [List.mem_cons, List.not_mem_nil, or_false] at h
    rcases h with rfl | rfl | rfl | rfl | rfl | rfl
    · exact key _ Oblig.C14.spelling_ok_2015_m
    · exact key _ Oblig.C14.spelling_ok_2015_f
    · exact key _ Oblig.C14.spelling_ok_2023_m
    · exact key _ Oblig.C14.spelling_ok_2023_f
    · exact key _ Oblig.C14.spelling_ok_athlons_m
    · exact key _ Oblig.C14.spelling_ok_athlons_f
  exact C14_case_tabulated rows hc r hr t gender age perf hint

/-! ### non-vacuity: the hypotheses above are met on the regenerated tables
(kernel-evaluated; the values are those of the pinned data and are re-checked on every regeneration —
if the data changes these examples, not the theorems, need new numbers) -/

theorem okEq_sound (r : Res) (q : Rat) (h : okEq r q = true) : r = .ok q := by
  unfold okEq at h
  split at h
  · rename_i x; simp only [beq_iff_eq] at h; rw [h]
  · exact absurd h (by simp)

section examples
-- a tabulated event in lower case with an upper-case gender: factor, best, grade all defined
example : okEq (factor Gen.wma2023 "M" 40 "5k") (1187/1250) = true := by decide +kernel
example : okEq (best Gen.wma2023 "M" "5k") 771 = true := by decide +kernel
example : okEq (grade Gen.wma2023 "Male" 40 "5k" 983) (963750/1166821) = true := by decide +kernel
-- C14_unit: at 29 the men's 5K factor is 1 and the open best 12:51 grades exactly 1; field event likewise
example : okEq (factor Gen.wma2023 "M" 29 "5K") 1 = true ∧ okEq (grade Gen.wma2023 "M" 29 "5K" 771) 1 = true := by
  decide +kernel
example : okEq (factor Gen.wma2023 "f" 25 "hj") 1 = true ∧ okEq (grade Gen.wma2023 "f" 25 "hj" (209/100)) 1 = true := by
  decide +kernel
-- half-integer age, interpolated between two columns
example : okEq (factor Gen.wma2023 "male" (81/2) "5K") (9461/10000) = true := by decide +kernel
-- C14_clamp_last: 200 years reads the last column (110)
example : okEq (factor Gen.wma2023 "m" 200 "10K") (1197/5000) = true ∧
    okEq (factor Gen.wma2023 "m" 110 "10K") (1197/5000) = true := by decide +kernel
-- exactly on the first non-null column (women's high jump starts at 8) the factor is defined; below it is not
example : okEq (factor Gen.wma2023 "f" 8 "HJ") (15713/10000) = true ∧
    errEq (factor Gen.wma2023 "f" 7 "HJ") .noFactor = true := by decide +kernel
-- combined events: five-year band, hurdles remap, 1 below the first masters band
example : okEq (athlonFactor Gen.wmaAthlons Gen.wmaMinAge "M" 66 "60h") (8351/10000) = true ∧
    okEq (athlonFactor Gen.wmaAthlons Gen.wmaMinAge "f" (139/2) "100H") (athlonFactor Gen.wmaAthlons Gen.wmaMinAge "F" 65 "SH" |>.toOption.getD 0) = true ∧
    okEq (athlonFactor Gen.wmaAthlons Gen.wmaMinAge "M" 20 "60h") 1 = true := by decide +kernel
-- refused spellings
example : errEq (factor Gen.wma2023 "x" 40 "5K") .value = true ∧ errEq (factor Gen.wma2023 "m" 40 "5m") .value = true := by
  decide +kernel
end examples

/-! ### witnesses for two repairs: small models of what the pinned commit did, on literals -/

/-- `fixes/wma-1-*.diff`: `world_best` indexed `data[gender]` (keys `'m'`/`'f'`) with the string as given, so
    spellings that `calculate_factor` accepts raised `KeyError` -/
def pinnedBestGenderKey (g : String) : Option Gender :=
  if g == "m" then some .m else if g == "f" then some .f else none

theorem pinned_world_best_rejects_accepted_spellings :
    pinnedBestGenderKey "M" = none ∧ normGender "M" = .ok .m ∧
    pinnedBestGenderKey "Female" = none ∧ normGender "Female" = .ok .f := by decide

/-- `fixes/wma-5-*.diff`: at an age exactly on column `i`, `find_age` gave `(i−1, i, 1)` and the factor multiplied
    the left neighbour by `0.0`: `TypeError` where that neighbour is null, i.e. at the first non-null column -/
def pinnedOnColumn (facs : List (Option Nat)) (i : Nat) : Option Nat :=
  match facs.getD (i - 1) none, facs.getD i none with
  | some _, some y => some y      -- 0·x + 1·y
  | _, _ => none                  -- TypeError: float * NoneType

theorem pinned_first_column_undefined :
    pinnedOnColumn [none, none, none, some 15713, some 14616] 3 = none ∧
    okEq (rowFactor ⟨[5, 6, 7, 8, 9], 1, 1, 10000, [], []⟩ ⟨"HJ", 0, 209, [none, none, none, some 15713, some 14616]⟩ 8)
      (15713/10000) = true := by decide +kernel

end AthlibVerif.Props.C14
