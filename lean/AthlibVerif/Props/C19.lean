import AthlibVerif.Lemmas.Cache
/-!
# C19 — Schema validation answers do not depend on what was validated before

Model: `Model/Cache.lean`, a transcription of `_add_to_cache`, `schema_valid` and
`valid_against_schema` **after** `fixes/c19-cached-false-expect-failure.diff` (`step`), and of the
pinned look-up (`stepPinned`, the library at commit 6f2daa5).  Everything jsonschema / the file system
decide is the parameter `truth : Key → Option Bool` (`none` = an exception other than the expected one
propagates).

The property is one statement, `HistoryIndependent st`, about a step function `st`: for every
`truth`, every capacity and every history (any length), the outcome of every call equals the outcome
of the same call made first on the empty state.  It is proved for the repaired code and refuted
for the pinned code (two-call history, `decide`).
-/
namespace AthlibVerif.Props.C19
open AthlibVerif AthlibVerif.Cache

/-- "each call's outcome equals the outcome of the same call made first in a fresh process" -/
def HistoryIndependent (st : (Key → Option Bool) → Nat → Store → Call → Store × Outcome) : Prop :=
  ∀ (truth : Key → Option Bool) (cap : Nat) (calls : List Call),
    (runWith (st truth cap) Store.empty calls).2 = calls.map (fun c => (st truth cap Store.empty c).2)

def C19_statement : Prop := HistoryIndependent step

/-- every history, every `truth`, every capacity (the source has `cap = maxlen = 20`);
invariant: every cached entry equals `truth`, and a cached `False` is only served when
`expect_failure` is off -/
theorem C19_history_independent : C19_statement :=
  fun truth cap calls => by
    obtain ⟨_, hout⟩ := run_spec calls (inv_empty truth cap)
    exact hout

/-- what a first call answers (so the equation above is not an equation between two errors):
`True` if the check passes; if it fails, the expected exception when `expect_failure` else `False` -/
theorem C19_first_call (truth : Key → Option Bool) (cap : Nat) (hc : 1 ≤ cap) (c : Call) :
    (step truth cap Store.empty c).2 = fresh truth c :=
  step_out c hc (inv_empty truth cap)

/-- the case of a total `truth : Key → Bool` (jsonschema always decides) at the source's `cap = 20`, answers written out -/
theorem C19_history_independent_bool (truth : Key → Bool) (calls : List Call) :
    (run (fun k => some (truth k)) maxlen Store.empty calls).2 =
      calls.map (fun c => if truth c.key then Outcome.retTrue else if c.ef then .raised else .retFalse) := by
  obtain ⟨_, hout⟩ := run_spec calls (inv_empty (fun k => some (truth k)) maxlen)
  rw [hout]
  apply List.map_congr_left
  intro c _
  rw [C19_first_call _ _ (by decide)]
  cases h : truth c.key <;> simp [fresh, h]

/-- a call is answered the same after any two histories -/
theorem C19_after_any_two_histories (truth : Key → Option Bool) (cap : Nat) (h₁ h₂ : List Call) (c : Call) :
    (step truth cap (run truth cap Store.empty h₁).1 c).2 = (step truth cap (run truth cap Store.empty h₂).1 c).2 := by
  obtain ⟨hinv₁, _⟩ := run_spec h₁ (inv_empty truth cap)
  obtain ⟨hinv₂, _⟩ := run_spec h₂ (inv_empty truth cap)
  rw [step_out_empty c hinv₁, step_out_empty c hinv₂]

/-- neither dict ever holds more than `cap` entries (any capacity, so in particular `cap ≥ 1`) -/
theorem C19_capacity (truth : Key → Option Bool) (cap : Nat) (calls : List Call) (fn : Fn) :
    ((run truth cap Store.empty calls).1.get fn).length ≤ cap := by
  obtain ⟨hinv, _⟩ := run_spec calls (inv_empty truth cap)
  obtain ⟨_, hlen⟩ := hinv fn
  exact hlen

theorem C19_capacity_20 (truth : Key → Option Bool) (calls : List Call) :
    (run truth maxlen Store.empty calls).1.sv.length ≤ 20 ∧ (run truth maxlen Store.empty calls).1.va.length ≤ 20 :=
  ⟨C19_capacity truth maxlen calls .schemaValid, C19_capacity truth maxlen calls .validAgainst⟩

/-- the invariant itself: whatever is cached is what jsonschema decides -/
theorem C19_entries_equal_truth (truth : Key → Option Bool) (cap : Nat) (calls : List Call) (fn : Fn) :
    ∀ e ∈ (run truth cap Store.empty calls).1.get fn, truth ⟨fn, e.1⟩ = some e.2 := by
  obtain ⟨hinv, _⟩ := run_spec calls (inv_empty truth cap)
  obtain ⟨hentries, _⟩ := hinv fn
  exact hentries

/-- the eviction loop never trips over its own iterator (for `cap ≥ 1`, single-threaded) -/
theorem C19_no_iterator_error (truth : Key → Option Bool) (cap : Nat) (hc : 1 ≤ cap) (calls : List Call) :
    ∀ o ∈ (run truth cap Store.empty calls).2, o ≠ Outcome.iterError := by
  obtain ⟨_, hout⟩ := run_spec calls (inv_empty truth cap)
  rw [hout]
  intro o ho
  obtain ⟨c, _, rfl⟩ := List.mem_map.1 ho
  rw [C19_first_call truth cap hc]
  unfold fresh
  split
  · simp
  · simp
  · split <;> simp

/-- the repair keeps the memo: an answer `True` / `False` is in the dict afterwards (any state) -/
theorem C19_answer_is_cached (truth : Key → Option Bool) (cap : Nat) (s : Store) (c : Call) (b : Bool)
    (h : (step truth cap s c).2 = Outcome.ofBool b) :
    find c.key.id ((step truth cap s c).1.get c.key.fn) = some b := by
  simp only [step, stepWith, get_put, if_true] at h ⊢
  exact stepCache_find h

/-- the two-call history: `valid_against_schema(bad, schema)` answers `False` and caches it; the
same call with `expect_failure=True` then gets the cached `False` instead of the exception -/
theorem C19_pinned_two_calls :
    (runPinned (fun _ => some false) maxlen Store.empty
        [⟨⟨.validAgainst, 0⟩, false⟩, ⟨⟨.validAgainst, 0⟩, true⟩]).2 = [.retFalse, .retFalse]
    ∧ (stepPinned (fun _ => some false) maxlen Store.empty ⟨⟨.validAgainst, 0⟩, true⟩).2 = .raised := by
  decide

theorem C19_pinned_not_history_independent : ¬ HistoryIndependent stepPinned := by
  intro h
  exact absurd (h (fun _ => some false) maxlen [⟨⟨.validAgainst, 0⟩, false⟩, ⟨⟨.validAgainst, 0⟩, true⟩]) (by decide)

/-- pinned and repaired code agree on every first call: the repair changes history-dependent answers only -/
theorem C19_pinned_same_first_call (truth : Key → Option Bool) (cap : Nat) (c : Call) :
    stepPinned truth cap Store.empty c = step truth cap Store.empty c := by
  cases c with | mk k ef => cases k with | mk fn id => cases fn <;> rfl

/-! ## Non-vacuity: the memo is really used, and eviction really happens -/

/-- repaired code, same two calls: `False` then the exception; the `False` is still cached -/
example :
    (run (fun _ => some false) maxlen Store.empty
        [⟨⟨.validAgainst, 0⟩, false⟩, ⟨⟨.validAgainst, 0⟩, true⟩, ⟨⟨.validAgainst, 0⟩, false⟩])
      = (⟨[], [(0, false)]⟩, [.retFalse, .raised, .retFalse]) := by decide

/-- 22 distinct keys overflow a 20-entry dict: it stays at 20 and, the source evicting the *newest*
key (`reversed(c)`), keys 19 and 20 are gone while 0…18 and 21 remain -/
example :
    let calls := (List.range 22).map (fun i => (⟨⟨.schemaValid, i⟩, false⟩ : Call))
    let s := (run (fun k => some (k.id % 2 == 0)) maxlen Store.empty calls).1
    s.sv.length = 20 ∧ s.sv.map (·.1) = 21 :: (List.range 19).reverse ∧ s.va = [] := by decide

/-- a history on which `truth = none` occurs: the error propagates every time, nothing is stored -/
example :
    (run (fun _ => none) maxlen Store.empty [⟨⟨.validAgainst, 3⟩, false⟩, ⟨⟨.validAgainst, 3⟩, true⟩])
      = (Store.empty, [.error, .error]) := by decide

end AthlibVerif.Props.C19
