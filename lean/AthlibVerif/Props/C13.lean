import AthlibVerif.Lemmas.Uka
/-!
# C13 — UK age groups follow the rule cut-off dates for every birth and meeting date

`Uka.tf` / `Uka.xc` / `Uka.calcGroup` transcribe `athlib/uka/agegroups.py` (ages are
`relativedelta(..).years`, modelled by `Cal.completedYears` with dateutil's conventions: a 29 February
birthday counts on 28 February in common years; truncation toward zero when the birth lies after
the reference date).  `Uka.Spec` restates Rules 107 / 207 / 507 from the rule text kept in the
module, on ages defined by anniversaries (`Spec.Aged`, `C13_age_is_anniversaries`).

Everything below is for **all** valid proleptic-Gregorian dates, all years (no bounds).  Readings that
needed interpretation are explicit:

* TF, October–December: the rule's "31st August within the Competition Year" is then the 31 August
  of the *following* calendar year, the module uses the one of the calendar year of the meeting.
  The property asserts rule equality for 1 January – 30 September only (`C13_tf_rule`);
  `tf_oct_dec_reading` is a witness that the two readings differ afterwards.
* Road / cross country: the module takes "the 31st August prior to match date", the meeting day
  included (`Spec.lastAug31`), for both disciplines; `C13_xc_rule` is equality with the rules on
  that cut-off for all dates.  Read to the letter ("31st August prior to the commencement of the
  Competition Year", year from 1 September for road, 1 October for cross country) the cut-off is
  the same except for a meeting held on 31 August itself (road and cross country) and in September
  (cross country): `C13_road_literal`, `C13_xc_literal`, witnesses `road_31aug_reading`,
  `xc_september_reading`.
-/
namespace AthlibVerif.Props.C13
open AthlibVerif AthlibVerif.Cal AthlibVerif.Uka

/-- the spec age is `n` exactly when the n-th anniversary of the birth (29 February → 28 February
    in common years) has been reached and the (n+1)-th has not -/
theorem C13_age_is_anniversaries (b on : Date) (n : Int) (hb : b.valid) (ho : on.valid) :
    Spec.Aged b on n ↔ Spec.ageOn b on = n := ageOn_iff_aged b on n hb ho

/-- `relativedelta(on, birth).years` is the spec age from the day of birth on -/
theorem C13_age_dateutil (b on : Date) (hb : b.valid) (ho : on.valid) (h : b.le on) :
    completedYears b on = Spec.ageOn b on := by
  rw [ageOn_eq_floorYears b on hb ho]; exact completedYears_of_le h

/-- before the birth both ages are non-positive (dateutil truncates, the spec floors), so no
    group can depend on the difference: every threshold of the rules is ≥ 9 -/
theorem C13_negative_irrelevant (b on : Date) (hb : b.valid) (ho : on.valid) (h : ¬ b.le on) :
    completedYears b on ≤ 0 ∧ Spec.ageOn b on < 0 := by
  rw [ageOn_eq_floorYears b on hb ho]
  exact ⟨completedYears_nonpos b on h, floorYears_neg b on hb h⟩

theorem age_cases (b on : Date) (hb : b.valid) (ho : on.valid) :
    completedYears b on = Spec.ageOn b on ∨ (completedYears b on ≤ 0 ∧ Spec.ageOn b on < 0) :=
  if h : b.le on then .inl (C13_age_dateutil b on hb ho h) else .inr (C13_negative_irrelevant b on hb ho h)

/-- Track and field, any meeting day: the function is the list of Rule 107 on the ages on 31 August
    and 31 December of the calendar year of the meeting and on the day. -/
theorem tf_eq_list107 (b md : Date) (vets underage : Bool) (hb : b.valid) (hm : md.valid) :
    tf b md vets underage = Spec.list107 (Spec.ageOn b ⟨md.y, 8, 31⟩) (Spec.ageOn b ⟨md.y, 12, 31⟩)
      (Spec.ageOn b md) vets underage := by
  have h8 := age_cases b _ hb (aug31_valid md.y)
  have h12 := age_cases b _ hb (dec31_valid md.y)
  have f := floor_tf_facts b md hm
  rw [← ageOn_eq_floorYears b _ hb (aug31_valid md.y), ← ageOn_eq_floorYears b _ hb (dec31_valid md.y),
    ← ageOn_eq_floorYears b _ hb hm] at f
  -- by `f`: 35 on the day → 20 on 31 December → 17 on 31 August; `hyx` has the age on 31 August on both sides
  rw [tf, tfOfAges_eq_ladder, list107_eq,
    ladderDown_eq_ladder _ _ (hwz := by omega) (hzy := by omega) (hyx := by omega)]
  exact ladder_congr _ _ h8 h8 h12 (age_cases b md hb hm)

/-- Track and field, meetings 1 January – 30 September: the function is Rule 107. -/
theorem C13_tf_rule (b md : Date) (vets underage : Bool) (hb : b.valid) (hm : md.valid) (hmonth : md.m ≤ 9) :
    tf b md vets underage = Spec.rule107 b md vets underage := by
  unfold Spec.rule107 Spec.augWithinYear
  rw [if_neg (by omega)]
  exact tf_eq_list107 b md vets underage hb hm

/-- in the code's own ages: 11 on the day forces 10 on the cut-off, so the final `else` of
    `rule507_agegroups_crosscountry` is reached only from age 20 on the cut-off -/
theorem xc_else_only_seniors (b md : Date) (hb : b.valid) (hm : md.valid) :
    11 ≤ completedYears b md → 10 ≤ completedYears b (priorDate md 8 31) := by
  rw [priorDate_eq_lastAug31 md hm]
  have f := floor_xc_facts b md hb hm
  have c1 := age_cases b md hb hm
  have c2 := age_cases b _ hb (lastAug31_valid md)
  rw [ageOn_eq_floorYears b md hb hm] at c1
  rw [ageOn_eq_floorYears b _ hb (lastAug31_valid md)] at c2
  omega

/-- Road and cross country, all dates: the function is Rules 207 / 507 on the last 31 August on or
    before the day of competition. -/
theorem C13_xc_rule (b md : Date) (vets underage : Bool) (hb : b.valid) (hm : md.valid) :
    xc b md vets underage = Spec.rule507 b md vets underage := by
  have h8 := age_cases b _ hb (lastAug31_valid md)
  have hD := age_cases b md hb hm
  have f := floor_xc_facts b md hb hm
  rw [← ageOn_eq_floorYears b _ hb (lastAug31_valid md), ← ageOn_eq_floorYears b _ hb hm] at f
  unfold xc Spec.rule507 Spec.roadXc
  -- by `f`: 35 on the day → 20 on the cut-off, 13 on the cut-off → 11 on the day; `hzy` has the cut-off age on both sides
  rw [xcOfAges_eq_ladder _ _ _ _ (xc_else_only_seniors b md hb hm), priorDate_eq_lastAug31 md hm, listRoadXc_eq,
    ladderDown_eq_ladder _ _ (hwz := by omega) (hzy := by omega) (hyx := by omega)]
  exact ladder_congr _ _ hD h8 h8 hD

/-- Rules 207 / 507 to the letter, for a competition year that starts on the 1st of month `start`
    (September or later): the same cut-off, except from 31 August to the eve of that day -/
theorem xc_literal (start : Nat) (hs : 9 ≤ start) (b md : Date) (vets underage : Bool) (hb : b.valid)
    (hm : md.valid) (h31 : ¬ (md.m = 8 ∧ md.d = 31)) (h : ¬ (9 ≤ md.m ∧ md.m < start)) :
    xc b md vets underage = Spec.roadXc (Spec.augBeforeYearStart start md) b md vets underage := by
  rw [C13_xc_rule b md vets underage hb hm]
  unfold Spec.rule507 Spec.lastAug31 Spec.augBeforeYearStart
  by_cases h' : md.m ≥ start
  · rw [if_pos (by omega), if_pos h']
  · rw [if_neg (by omega), if_neg h']

/-- Rule 207 to the letter (competition year from 1 September), every day but 31 August -/
theorem C13_road_literal (b md : Date) (vets underage : Bool) (hb : b.valid) (hm : md.valid)
    (h31 : ¬ (md.m = 8 ∧ md.d = 31)) :
    xc b md vets underage = Spec.rule207Literal b md vets underage :=
  xc_literal 9 (by decide) b md vets underage hb hm h31 (by omega)

/-- Rule 507 to the letter (competition year from 1 October), every day but 31 August – 30 September -/
theorem C13_xc_literal (b md : Date) (vets underage : Bool) (hb : b.valid) (hm : md.valid)
    (h31 : ¬ (md.m = 8 ∧ md.d = 31)) (hsep : md.m ≠ 9) :
    xc b md vets underage = Spec.rule507Literal b md vets underage :=
  xc_literal 10 (by decide) b md vets underage hb hm h31 (by omega)

/-- one of the labels: a fixed junior / senior label, or `V` + a multiple of five from 35 -/
def WellFormed (g : Group) : Prop :=
  g = .u9 ∨ g = .u11 ∨ g = .u13 ∨ g = .u15 ∨ g = .u17 ∨ g = .u20 ∨ g = .sen ∨ ∃ k : Nat, 7 ≤ k ∧ g = .vet (5 * k)

theorem wf_of_rank_lt {g : Group} (h : g.rank < 7) : WellFormed g := by
  cases g with
  | vet n =>
    simp only [Group.rank] at h
    omega
  | _ => simp [WellFormed]

theorem wf_vet {a : Int} (h : 35 ≤ a) : WellFormed (.vet (vetBand a)) := by
  simp only [WellFormed, reduceCtorEq, false_or, Group.vet.injEq]
  exact ⟨(a / 5).toNat, by omega, by unfold vetBand; omega⟩

theorem wf_ite {p : Prop} [Decidable p] {g r : Group} (hg : g.rank < 7) (hr : WellFormed r) :
    WellFormed (if p then g else r) := by
  split
  · exact wf_of_rank_lt hg
  · exact hr

theorem ladder_wf (x y z w : Int) (v u : Bool) : WellFormed (ladder x y z w v u) := by
  refine wf_ite (by decide) <| wf_ite (by decide) <| wf_ite (by decide) <| wf_ite (by decide) <|
    wf_ite (by decide) <| wf_ite (by decide) ?_
  split
  next h => exact wf_vet h.2
  next => exact wf_of_rank_lt (by decide)

theorem tf_wf (b md : Date) (v u : Bool) : WellFormed (tf b md v u) := by
  rw [tf, tfOfAges_eq_ladder]
  exact ladder_wf ..

theorem xc_wf (b md : Date) (v u : Bool) : WellFormed (xc b md v u) := by
  rw [xc, xcOfAges_eq_ladder_xcCut]
  exact ladder_wf ..

/-- For the three implemented categories the function is defined for every pair of dates (valid or
    not, any years) and returns one of the labels. -/
theorem C13_total (cat : String) (hc : cat = "TF" ∨ cat = "XC" ∨ cat = "ROAD") (b md : Date) (vets underage : Bool) :
    ∃ g, calcGroup cat b md vets underage = .ok g ∧ WellFormed g := by
  rcases hc with h | h | h <;> subst h
  · exact ⟨_, rfl, tf_wf ..⟩
  · exact ⟨_, rfl, xc_wf ..⟩
  · exact ⟨_, rfl, xc_wf ..⟩

/-- the other two documented outcomes -/
theorem C13_other_categories (cat : String) (b md : Date) (vets underage : Bool)
    (hc : cat ≠ "TF" ∧ cat ≠ "XC" ∧ cat ≠ "ROAD") :
    calcGroup cat b md vets underage = (if cat = "ESAA" then .notImplemented else .valueError) := by
  unfold calcGroup
  rw [if_neg hc.1, if_neg (by intro h; rcases h with h | h; exact hc.2.2 h; exact hc.2.1 h)]

theorem C13_mono_birth_tf (b1 b2 md : Date) (vets underage : Bool) (h : b1.le b2) :
    (tf b2 md vets underage).rank ≤ (tf b1 md vets underage).rank := by
  simp only [tf, tfOfAges_eq_ladder]
  exact ladder_mono _ _ (completedYears_mono_birth b1 b2 _ h) (completedYears_mono_birth b1 b2 _ h)
    (completedYears_mono_birth b1 b2 _ h) (completedYears_mono_birth b1 b2 _ h)

theorem C13_mono_birth_xc (b1 b2 md : Date) (vets underage : Bool) (h1 : b1.valid) (h2 : b2.valid)
    (hm : md.valid) (h : b1.le b2) : (xc b2 md vets underage).rank ≤ (xc b1 md vets underage).rank := by
  unfold xc
  rw [xcOfAges_eq_ladder _ _ _ _ (xc_else_only_seniors b1 md h1 hm),
    xcOfAges_eq_ladder _ _ _ _ (xc_else_only_seniors b2 md h2 hm)]
  exact ladder_mono _ _ (completedYears_mono_birth b1 b2 _ h) (completedYears_mono_birth b1 b2 _ h)
    (completedYears_mono_birth b1 b2 _ h) (completedYears_mono_birth b1 b2 _ h)

/-- rank of a result (errors do not occur for the three categories, see `C13_total`) -/
def resRank : Res → Nat
  | .ok g => g.rank | _ => 0

/-- An earlier birth date never gives a younger group, in the order U9 < U11 < U13 < U15 < U17 < U20 < SEN < V35 < V40 < …,
    for every category. -/
theorem C13_mono_birth (cat : String) (b1 b2 md : Date) (vets underage : Bool)
    (h1 : b1.valid) (h2 : b2.valid) (hm : md.valid) (h : b1.le b2) :
    resRank (calcGroup cat b2 md vets underage) ≤ resRank (calcGroup cat b1 md vets underage) := by
  unfold calcGroup
  split
  · exact C13_mono_birth_tf b1 b2 md vets underage h
  · split
    · exact C13_mono_birth_xc b1 b2 md vets underage h1 h2 hm h
    · split <;> exact Nat.le_refl _

def noMasters : Group → Group
  | .vet _ => .sen | g => g
def noU9 : Group → Group
  | .u9 => .u11 | g => g

theorem rung_map {f : Group → Group} {p : Prop} [Decidable p] {g r r' : Group} (hg : f g = g) (hr : r = f r') :
    (if p then g else r) = f (if p then g else r') := by
  rw [apply_ite f, hg, hr]

theorem ladder_vets (x y z w : Int) (u : Bool) :
    ladder x y z w false u = noMasters (ladder x y z w true u) := by
  refine rung_map rfl <| rung_map rfl <| rung_map rfl <| rung_map rfl <| rung_map rfl <| rung_map rfl ?_
  rw [if_neg (fun c => Bool.false_ne_true c.1)]
  split <;> rfl

theorem ladder_underage (x y z w : Int) (v : Bool) :
    ladder x y z w v false = noU9 (ladder x y z w v true) := by
  unfold ladder
  rw [if_neg (fun c => Bool.false_ne_true c.1)]
  by_cases h : x < 9
  · rw [if_pos (by omega), if_pos ⟨rfl, h⟩]
    rfl
  · rw [if_neg (fun c : true = true ∧ x < 9 => h c.2)]
    exact rung_map rfl <| rung_map rfl <| rung_map rfl <| rung_map rfl <| rung_map rfl <| rung_map rfl rfl

/-- `vets=False` gives exactly the `vets=True` answer with every masters band replaced by SEN:
    the option changes masters outcomes only (all dates, valid or not). -/
theorem C13_vets_only_masters (b md : Date) (underage : Bool) :
    tf b md false underage = noMasters (tf b md true underage) ∧
    xc b md false underage = noMasters (xc b md true underage) := by
  constructor
  · simp only [tf, tfOfAges_eq_ladder]
    exact ladder_vets ..
  · simp only [xc, xcOfAges_eq_ladder_xcCut]
    exact ladder_vets ..

/-- `underage=False` gives exactly the `underage=True` answer with U9 replaced by U11. -/
theorem C13_underage_only_u11 (b md : Date) (vets : Bool) :
    tf b md vets false = noU9 (tf b md vets true) ∧
    xc b md vets false = noU9 (xc b md vets true) := by
  constructor
  · simp only [tf, tfOfAges_eq_ladder]
    exact ladder_underage ..
  · simp only [xc, xcOfAges_eq_ladder_xcCut]
    exact ladder_underage ..

theorem noMasters_ne_vet (g : Group) (n : Nat) : noMasters g ≠ .vet n := by
  cases g <;> simp [noMasters]

theorem noU9_ne_u9 (g : Group) : noU9 g ≠ .u9 := by
  cases g <;> simp [noU9]

/-- masters bands appear only with `vets`, U9 only with `underage` -/
theorem C13_options_needed (b md : Date) (vets underage : Bool) :
    (∀ n, (tf b md vets underage = .vet n ∨ xc b md vets underage = .vet n) → vets = true) ∧
    ((tf b md vets underage = .u9 ∨ xc b md vets underage = .u9) → underage = true) := by
  have hv := C13_vets_only_masters b md underage
  have hu := C13_underage_only_u11 b md vets
  constructor
  · intro n h
    cases vets with
    | true => rfl
    | false =>
      rw [hv.1, hv.2] at h
      exact (h.elim (noMasters_ne_vet _ n) (noMasters_ne_vet _ n)).elim
  · intro h
    cases underage with
    | true => rfl
    | false =>
      rw [hu.1, hu.2] at h
      exact (h.elim (noU9_ne_u9 _) (noU9_ne_u9 _)).elim

/-- ROAD and XC are the same function. -/
theorem C13_road_eq_xc (b md : Date) (vets underage : Bool) :
    calcGroup "ROAD" b md vets underage = calcGroup "XC" b md vets underage := rfl

theorem calc_tf (b md : Date) (v u : Bool) : calcGroup "TF" b md v u = .ok (tf b md v u) := rfl
theorem calc_xc (b md : Date) (v u : Bool) : calcGroup "XC" b md v u = .ok (xc b md v u) := rfl

def C13_statement : Prop :=
  (∀ (b md : Date) (v u : Bool), b.valid → md.valid → md.m ≤ 9 →
      calcGroup "TF" b md v u = .ok (Spec.rule107 b md v u)) ∧
  (∀ (b md : Date) (v u : Bool), b.valid → md.valid →
      calcGroup "XC" b md v u = .ok (Spec.rule507 b md v u)) ∧
  (∀ (cat : String), cat = "TF" ∨ cat = "XC" ∨ cat = "ROAD" → ∀ (b md : Date) (v u : Bool),
      ∃ g, calcGroup cat b md v u = .ok g ∧ WellFormed g) ∧
  (∀ (cat : String) (b1 b2 md : Date) (v u : Bool), b1.valid → b2.valid → md.valid → b1.le b2 →
      resRank (calcGroup cat b2 md v u) ≤ resRank (calcGroup cat b1 md v u)) ∧
  (∀ (b md : Date) (u : Bool), tf b md false u = noMasters (tf b md true u) ∧
      xc b md false u = noMasters (xc b md true u)) ∧
  (∀ (b md : Date) (v : Bool), tf b md v false = noU9 (tf b md v true) ∧
      xc b md v false = noU9 (xc b md v true)) ∧
  (∀ (b md : Date) (v u : Bool), calcGroup "ROAD" b md v u = calcGroup "XC" b md v u)

theorem C13 : C13_statement :=
  ⟨fun b md v u hb hm h => by rw [calc_tf, C13_tf_rule b md v u hb hm h],
   fun b md v u hb hm => by rw [calc_xc, C13_xc_rule b md v u hb hm],
   fun cat hc b md v u => C13_total cat hc b md v u,
   fun cat b1 b2 md v u h1 h2 hm h => C13_mono_birth cat b1 b2 md v u h1 h2 hm h,
   fun b md u => C13_vets_only_masters b md u,
   fun b md v => C13_underage_only_u11 b md v,
   fun b md v u => C13_road_eq_xc b md v u⟩

/-! ## non-vacuity and the boundary days, evaluated by the kernel -/

example : (⟨2000, 2, 29⟩ : Date).valid ∧ ¬ (⟨1900, 2, 29⟩ : Date).valid ∧ (⟨2015, 8, 31⟩ : Date).valid := by decide
/-- born 29 Feb 2000: 15 on 28 Feb 2015 (dateutil's convention), still 14 on 27 Feb -/
example : completedYears ⟨2000, 2, 29⟩ ⟨2015, 2, 28⟩ = 15 ∧ completedYears ⟨2000, 2, 29⟩ ⟨2015, 2, 27⟩ = 14 ∧
    completedYears ⟨2000, 2, 29⟩ ⟨2016, 2, 28⟩ = 15 ∧ completedYears ⟨2000, 2, 29⟩ ⟨2016, 2, 29⟩ = 16 := by decide
/-- born after the reference date: truncated toward zero (the floor would be −1 and −2) -/
example : completedYears ⟨2016, 3, 1⟩ ⟨2015, 8, 31⟩ = 0 ∧ completedYears ⟨2016, 9, 1⟩ ⟨2015, 8, 31⟩ = -1 ∧
    Spec.ageOn ⟨2016, 3, 1⟩ ⟨2015, 8, 31⟩ = -1 ∧ Spec.ageOn ⟨2016, 9, 1⟩ ⟨2015, 8, 31⟩ = -2 := by decide
/-- the 31 August / 1 September cut-off, track and field -/
example : tf ⟨2001, 8, 31⟩ ⟨2015, 2, 14⟩ true false = .u15 ∧ tf ⟨2001, 9, 1⟩ ⟨2015, 2, 14⟩ true false = .u15 ∧
    tf ⟨2000, 8, 31⟩ ⟨2015, 2, 14⟩ true false = .u17 ∧ tf ⟨2000, 9, 1⟩ ⟨2015, 2, 14⟩ true false = .u15 ∧
    tf ⟨1995, 12, 31⟩ ⟨2015, 2, 14⟩ true false = .sen ∧ tf ⟨1996, 1, 1⟩ ⟨2015, 2, 14⟩ true false = .u20 ∧
    tf ⟨1980, 2, 14⟩ ⟨2015, 2, 14⟩ true false = .vet 35 ∧ tf ⟨1980, 2, 15⟩ ⟨2015, 2, 14⟩ true false = .sen ∧
    tf ⟨1980, 2, 14⟩ ⟨2015, 2, 14⟩ false false = .sen ∧ tf ⟨2007, 1, 1⟩ ⟨2015, 2, 14⟩ true true = .u9 := by decide
/-- cross country: two actual cases from the repository's tests, and the masters / U13 edges -/
example : xc ⟨1994, 9, 29⟩ ⟨2015, 1, 3⟩ true true = .u20 ∧ xc ⟨1997, 9, 1⟩ ⟨2015, 1, 3⟩ true true = .u17 ∧
    xc ⟨1966, 3, 21⟩ ⟨2015, 1, 3⟩ true true = .vet 45 ∧ xc ⟨2004, 1, 3⟩ ⟨2015, 1, 3⟩ true true = .u13 ∧
    xc ⟨2004, 1, 4⟩ ⟨2015, 1, 3⟩ true true = .u11 := by decide

/-- October–December, track and field: the module's 31 August (calendar year of the meeting) and the
    rule's (within the competition year, i.e. next calendar year) give different groups -/
theorem tf_oct_dec_reading :
    tf ⟨2000, 9, 1⟩ ⟨2015, 10, 15⟩ true false = .u15 ∧ Spec.rule107 ⟨2000, 9, 1⟩ ⟨2015, 10, 15⟩ true false = .u17 := by
  decide
/-- a road race held on 31 August itself: the module ages the athlete on that very day, Rule 207 to
    the letter on the 31 August of the year before -/
theorem road_31aug_reading :
    xc ⟨2002, 8, 31⟩ ⟨2015, 8, 31⟩ true true = .u15 ∧ Spec.rule207Literal ⟨2002, 8, 31⟩ ⟨2015, 8, 31⟩ true true = .u13 := by
  decide
/-- a cross-country race in September: the module applies the road cut-off -/
theorem xc_september_reading :
    xc ⟨2002, 8, 31⟩ ⟨2015, 9, 20⟩ true true = .u15 ∧ Spec.rule507Literal ⟨2002, 8, 31⟩ ⟨2015, 9, 20⟩ true true = .u13 := by
  decide

end AthlibVerif.Props.C13
