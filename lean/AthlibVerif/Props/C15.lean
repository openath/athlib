import AthlibVerif.Lemmas.WmaDist
import AthlibVerif.Oblig.C15.Seam2015
import AthlibVerif.Oblig.C15.Seam2023
import AthlibVerif.Gen.WmaData
import AthlibVerif.Oblig.C14.Pos2015
import AthlibVerif.Oblig.C14.Pos2023
import AthlibVerif.Oblig.C15.Dist2015
import AthlibVerif.Oblig.C15.Dist2023
/-!
# C15 — WMA interpolation between distances is order-preserving

Theorems about `Wma.factorByDistance` / `Wma.bestByDistance` (the fall-back of `calculate_factor` and
`world_best` for run codes that are not tabulated), for **every** table satisfying the decidable
side-conditions `bestsOK`, `runOK`, `chainOK`, `noSeam` of `Model/WmaChecks.lean`, every distance in
whole metres and every rational age.  The side-conditions are kernel-decided for the regenerated
tables in `Oblig/C15/*` and instantiated at the end of this file.

The run rows are *not* sorted by distance (track rows 50 … 10000, then road rows 5K … 200K), so nothing
here assumes sortedness: the linear scan brackets `d` by the first row that is not shorter and the row
before it, and the theorems are about those bracket rows.  `noSeam` says that no other run row lies
strictly between a reachable bracket's two distances; then (`C15_bracket_nearest`) the bracket rows
*are* nearest shorter / longer tabulated events (with ties such as 5000 / 5K the bracket picks one of
the candidates), which turns bracket betweenness into the property's clause.  The open bests need
`chainOK`: bests never decrease along the reachable brackets — speeds *rise* from 50 m to 200 m in
the real tables, so "speed non-increasing" would be the wrong condition.
-/
namespace AthlibVerif.Props.C15
open AthlibVerif AthlibVerif.Wma

theorem interp_between (t x y : Rat) (h0 : 0 ≤ t) (h1 : t ≤ 1) :
    min x y ≤ (1 - t) * x + t * y ∧ (1 - t) * x + t * y ≤ max x y := lerp_between h0 h1

/-- the speed-interpolated best `1000·d / ((1−p)·v_s + p·v_l)` at `d = (1−p)·k_s + p·k_l`
    (`v = 1000·k / t`) lies between `t_s` and `t_l` -/
theorem mobius_between (p ks ts kl tl : Rat) (hp0 : 0 ≤ p) (hp1 : p ≤ 1) (hks : 0 ≤ ks) (hkl : 0 ≤ kl)
    (hts : 0 < ts) (htl : 0 < tl) (hv : (1 - p) * (ks * 1000 / ts) + p * (kl * 1000 / tl) ≠ 0) :
    min ts tl ≤ interpBest (1000 * ((1 - p) * ks + p * kl)) p ks ts kl tl ∧
    interpBest (1000 * ((1 - p) * ks + p * kl)) p ks ts kl tl ≤ max ts tl := by
  -- the interpolated best is the average of the two bests weighted by `(1−p)·v_s` and `p·v_l`
  have e : 1000 * ((1 - p) * ks + p * kl) = (1 - p) * (ks * 1000 / ts) * ts + p * (kl * 1000 / tl) * tl := by
    field_simp
  rw [interpBest_eq, e]
  have hs : 0 ≤ (1 - p) * (ks * 1000 / ts) := mul_nonneg (by linarith) (div_nonneg (by positivity) hts.le)
  have hl : 0 ≤ p * (kl * 1000 / tl) := mul_nonneg hp0 (div_nonneg (by positivity) htl.le)
  exact wavg_between hs hl (lt_of_le_of_ne (add_nonneg hs hl) (Ne.symm hv))

/-- … and, when `t_s ≤ t_l`, does not decrease as `p` (the distance) grows -/
theorem mobius_mono (p p' ks ts kl tl : Rat) (hpp : p ≤ p') (hks : 0 ≤ ks) (hkl : 0 ≤ kl)
    (hts : 0 < ts) (htl : 0 < tl) (hb : ts ≤ tl)
    (hv : 0 < (1 - p) * (ks * 1000 / ts) + p * (kl * 1000 / tl))
    (hv' : 0 < (1 - p') * (ks * 1000 / ts) + p' * (kl * 1000 / tl)) :
    interpBest (1000 * ((1 - p) * ks + p * kl)) p ks ts kl tl ≤
      interpBest (1000 * ((1 - p') * ks + p' * kl)) p' ks ts kl tl := by
  rw [interpBest_eq, interpBest_eq, mul_div_assoc (1000 : Rat), mul_div_assoc (1000 : Rat)]
  refine mul_le_mul_of_nonneg_left (ratio_mono hpp ?_ hv hv') (by norm_num)
  -- `ks·v_l ≤ kl·v_s`: both are `1000·ks·kl` over a best, and `ts ≤ tl`
  rw [show ks * (kl * 1000 / tl) = ks * kl * 1000 / tl by ring, show kl * (ks * 1000 / ts) = ks * kl * 1000 / ts by ring]
  rw [div_le_div_iff₀ htl hts]
  exact mul_le_mul_of_nonneg_left hb (by positivity)

/-- **factor betweenness** — for any table whatsoever: the distance-interpolated factor lies between
    the factors (same age) of the two rows the scan brackets the distance with -/
theorem C15_factor_between (t : Table) (rows : List Row) (age : Rat) (dist fx fx1 : Nat) (p x fs fl : Rat)
    (h : factorByDistance t rows age dist = .ok x)
    (hb : rowByDistance t rows dist = .ok (fx, fx1, p))
    (hs : rowFactor t (rows.getD fx default) age = .ok fs)
    (hl : rowFactor t (rows.getD fx1 default) age = .ok fl) :
    min fs fl ≤ x ∧ x ≤ max fs fl := by
  unfold factorByDistance at h
  rw [hb] at h
  simp only [hs, hl] at h
  split at h
  · injection h with h; subst h; exact ⟨min_le_right _ _, le_max_right _ _⟩
  · split at h
    · injection h with h; subst h; exact ⟨min_le_left _ _, le_max_left _ _⟩
    · split at h
      · injection h with h; subst h; exact ⟨min_le_left _ _, le_max_left _ _⟩
      · injection h with h; subst h
        exact lerp_between (clamp01_bounds _).1 (clamp01_bounds _).2

/-- **best betweenness** — interior bracket `(fx, fx1)`: the interpolated open best lies between the
    open bests of the two bracket rows -/
theorem C15_best_between (t : Table) (rows : List Row) (dist fx fx1 : Nat) (p x : Rat)
    (hR : runOK rows = true)
    (h : bestByDistance t rows dist = .ok x)
    (hb : rowByDistance t rows dist = .ok (fx, fx1, p)) (hne : fx ≠ fx1) :
    min (t.bestQ (rows.getD fx default)) (t.bestQ (rows.getD fx1 default)) ≤ x ∧
    x ≤ max (t.bestQ (rows.getD fx default)) (t.bestQ (rows.getD fx1 default)) := by
  obtain ⟨hb0, hb1, hv, hx⟩ := best_interior t rows dist fx fx1 p x hR h hb hne
  obtain ⟨hp0, hp1, _⟩ := bracket_weight t rows dist fx fx1 p hR hb hne
  rw [hx]
  exact mobius_between _ _ _ _ _ hp0 hp1 (kmQ_nonneg t _) (kmQ_nonneg t _) hb0 hb1 hv.ne'

/-- **best monotone inside a bracket** — two distances bracketed by the same interior pair of rows
    whose bests are in order: the longer distance has the larger (or equal) open best -/
theorem C15_best_mono_bracket (t : Table) (rows : List Row) (dist dist' fx fx1 : Nat) (p p' x x' : Rat)
    (hR : runOK rows = true) (hdd : dist ≤ dist')
    (h : bestByDistance t rows dist = .ok x) (h' : bestByDistance t rows dist' = .ok x')
    (hb : rowByDistance t rows dist = .ok (fx, fx1, p))
    (hb' : rowByDistance t rows dist' = .ok (fx, fx1, p')) (hne : fx ≠ fx1)
    (hbest : (rows.getD fx default).best ≤ (rows.getD fx1 default).best) : x ≤ x' := by
  obtain ⟨hb0, hb1, hv, hx⟩ := best_interior t rows dist fx fx1 p x hR h hb hne
  obtain ⟨_, _, hv', hx'⟩ := best_interior t rows dist' fx fx1 p' x' hR h' hb' hne
  obtain ⟨_, _, _, _, _, hk, hp, _⟩ := bracket_spec t rows dist fx fx1 p hR hb hne
  obtain ⟨_, _, _, _, _, _, hp', _⟩ := bracket_spec t rows dist' fx fx1 p' hR hb' hne
  have hpp : p ≤ p' := by
    rw [hp, hp']
    have hdq : (dist : Rat) / 1000 ≤ (dist' : Rat) / 1000 :=
      div_le_div_of_nonneg_right (Nat.cast_le.2 hdd) (by norm_num)
    exact div_le_div_of_nonneg_right (sub_le_sub_right hdq _) (sub_pos.2 hk).le
  rw [hx, hx']
  exact mobius_mono _ _ _ _ _ _ hpp (kmQ_nonneg t _) (kmQ_nonneg t _) hb0 hb1 (bestQ_mono t _ _ hbest) hv hv'

/-- a bracket whose lower row has no distance (the row before `"50"`): the open best of the upper row, i.e. of the first run row -/
theorem C15_ends_best_short (t : Table) (rows : List Row) (dist fx fx1 : Nat) (p x : Rat)
    (hR : runOK rows = true) (h : bestByDistance t rows dist = .ok x)
    (hb : rowByDistance t rows dist = .ok (fx, fx1, p)) (hne : fx ≠ fx1)
    (hkm : (rows.getD fx default).km = 0) : x = t.bestQ (rows.getD fx1 default) := by
  obtain ⟨_, hb1, hv, hx⟩ := best_interior t rows dist fx fx1 p x hR h hb hne
  rw [kmQ_zero t _ hkm] at hv hx
  rw [hx]
  exact interpBest_lower_zero hb1.ne' (by ring) (by intro hc; apply hv.ne'; rw [hc]; ring)

section chain
variable (t : Table) (rows : List Row)

theorem runKms_getD (j : Nat) : (runKms rows).getD j 0 = (rows.getD (runStart rows + j) default).km := by
  unfold runKms
  simp only [List.getD_eq_getElem?_getD, List.getElem?_map, List.getElem?_drop]
  cases rows[runStart rows + j]? <;> rfl

theorem runBests_getD (j : Nat) : (runBests rows).getD j 0 = (rows.getD (runStart rows + j) default).best := by
  unfold runBests
  simp only [List.getD_eq_getElem?_getD, List.getElem?_map, List.getElem?_drop]
  cases rows[runStart rows + j]? <;> rfl

theorem runKms_length : (runKms rows).length = rows.length - runStart rows := by
  unfold runKms; rw [List.length_map, List.length_drop]

theorem scan_reach (d : Rat) (j : Nat) (hs : 0 < t.kmScale) (hj : scanIdx t rows d = runStart rows + j)
    (h : scanIdx t rows d < rows.length) : reach (runKms rows) j = true := by
  unfold reach
  simp only [List.all_eq_true, List.mem_range, decide_eq_true_eq, runKms_getD]
  intro j' hj'
  rw [← kmQ_lt_iff t _ _ hs, ← hj]
  exact lt_of_lt_of_le (scan_lt t rows d _ (by omega) (by omega)) (scan_ge t rows d h)

/-- the chain condition at the row the scan stops at: bests are in order inside its bracket of two run rows (first
    conjunct), and from it to the lower row of the bracket of any distance whose scan stops later (second) -/
theorem chainOK_spec (hC : chainOK (runKms rows) (runBests rows) = true) (hks : 0 < t.kmScale) (d : Rat)
    (hlt : scanIdx t rows d < rows.length) :
    (runStart rows < scanIdx t rows d →
      (rows.getD (scanIdx t rows d - 1) default).best ≤ (rows.getD (scanIdx t rows d) default).best) ∧
    ∀ d', scanIdx t rows d < scanIdx t rows d' →
      (rows.getD (scanIdx t rows d) default).best ≤ (rows.getD (scanIdx t rows d' - 1) default).best := by
  -- `scanIdx` is `runStart rows + j` by definition: `j` is the row's place in the lists the check runs on
  obtain ⟨j, hj⟩ : ∃ j, scanIdx t rows d = runStart rows + j := ⟨_, rfl⟩
  have hr := scan_reach t rows d j hks hj hlt
  unfold chainOK at hC
  simp only [List.all_eq_true, List.mem_range, Bool.or_eq_true, Bool.not_eq_true', Bool.and_eq_true,
    beq_iff_eq, decide_eq_true_eq, decide_eq_false_iff_not, runKms_length, runBests_getD] at hC
  rcases hC j (by omega) with hnr | ⟨h1, h2⟩
  · rw [hr] at hnr; cases hnr
  · refine ⟨fun hsi => ?_, fun d' hlt' => ?_⟩
    · rcases h1 with h1 | h1
      · omega
      · rw [hj, Nat.add_sub_assoc (by omega)]; exact h1
    · obtain ⟨j', hj'⟩ : ∃ j', scanIdx t rows d' = runStart rows + j' := ⟨_, rfl⟩
      have hle' := scanIdx_le_length t rows d'
      -- the check on `j'`: it is not later than `j`, or neither the end nor reachable, or the bests are in order
      rcases h2 j' (by omega) with (hc | hc) | hc
      · omega
      · exfalso
        simp only [Bool.or_eq_false_iff, beq_eq_false_iff_ne] at hc
        have := scan_reach t rows d' j' hks hj'
        rcases Nat.lt_or_ge (scanIdx t rows d') rows.length with hl | hl
        · rw [this hl] at hc; cases hc.2
        · exact hc.1 (by omega)
      · rw [hj, hj', Nat.add_sub_assoc (by omega)]; exact hc

theorem best_no_run_rows (dist : Nat) (x : Rat) (e : Err)
    (h : bestByDistance t rows dist = .ok x) (hb : rowByDistance t rows dist = .error e) : False := by
  unfold bestByDistance at h
  rw [hb] at h
  cases h

theorem best_bracket (dist i : Nat) (x : Rat) (h : bestByDistance t rows dist = .ok x)
    (hi : scanIdx t rows ((dist : Rat) / 1000) = i) (h0 : 0 < i) (hlt : i < rows.length) :
    ∃ p, rowByDistance t rows dist = .ok (i - 1, i, p) := by
  subst hi
  rcases rowByDistance_cases t rows dist with ⟨_, hb⟩ | ⟨_, _, _⟩ | ⟨_, _, _, ⟨_, hb⟩ | ⟨_, hb⟩⟩ | ⟨_, _, _, _⟩
  · exact (best_no_run_rows t rows dist x _ h hb).elim
  · omega
  · exact (best_no_run_rows t rows dist x _ h hb).elim
  · exact ⟨_, hb⟩
  · omega

theorem best_degenerate (dist i : Nat) (x : Rat) (h : bestByDistance t rows dist = .ok x)
    (hi : scanIdx t rows ((dist : Rat) / 1000) = i) (h0 : i = 0 ∨ i = rows.length) :
    rowByDistance t rows dist = .ok (i - 1, i - 1, 0) := by
  subst hi
  rcases rowByDistance_cases t rows dist with ⟨_, hb⟩ | ⟨_, h0, hb⟩ | ⟨_, _, _, _⟩ | ⟨_, _, hn, hb⟩
  · exact (best_no_run_rows t rows dist x _ h hb).elim
  · rw [h0]; exact hb
  · omega
  · rw [hn]; exact hb

/-- The distances whose scan stops at row `i` form one piece of the interpolated best: over it the best does not
    decrease, stays at most the best of row `i` (when there is such a row) and at least the best of row `i − 1` (when
    that is a run row).  A piece is of one of three kinds: between two run rows (the Möbius map; the two bests are in
    order by the chain condition), below the first run row of a run section that does not start the table (constant),
    or an end of the table (the time at one row's speed). -/
theorem best_piece (dist dist' i : Nat) (x x' : Rat) (hks : 0 < t.kmScale) (hR : runOK rows = true)
    (hC : chainOK (runKms rows) (runBests rows) = true) (hdd : dist ≤ dist')
    (h : bestByDistance t rows dist = .ok x) (h' : bestByDistance t rows dist' = .ok x')
    (hi : scanIdx t rows ((dist : Rat) / 1000) = i) (hi' : scanIdx t rows ((dist' : Rat) / 1000) = i) :
    x ≤ x' ∧ (i < rows.length → x' ≤ t.bestQ (rows.getD i default)) ∧
      (runStart rows < i → t.bestQ (rows.getD (i - 1) default) ≤ x) := by
  have hle : i ≤ rows.length := hi ▸ scanIdx_le_length t rows _
  have hsle : runStart rows ≤ i := hi ▸ runStart_le_scanIdx t rows _
  by_cases hmid : 0 < i ∧ i < rows.length
  · obtain ⟨p, hb⟩ := best_bracket t rows dist i x h hi hmid.1 hmid.2
    obtain ⟨p', hb'⟩ := best_bracket t rows dist' i x' h' hi' hmid.1 hmid.2
    have hne : i - 1 ≠ i := by omega
    rcases Nat.lt_or_ge (runStart rows) i with hsi | hsi
    · -- two run rows, their bests in order
      have hord : (rows.getD (i - 1) default).best ≤ (rows.getD i default).best := by
        have := (chainOK_spec t rows hC hks ((dist : Rat) / 1000) (hi ▸ hmid.2)).1 (hi ▸ hsi)
        rwa [hi] at this
      have hbt := C15_best_between t rows dist _ _ _ x hR h hb hne
      have hbt' := C15_best_between t rows dist' _ _ _ x' hR h' hb' hne
      rw [min_eq_left (bestQ_mono t _ _ hord), max_eq_right (bestQ_mono t _ _ hord)] at hbt hbt'
      exact ⟨C15_best_mono_bracket t rows dist dist' _ _ _ _ x x' hR hdd h h' hb hb' hne hord, fun _ => hbt'.2, fun _ => hbt.1⟩
    · -- the lower row is the one before the run section: both bests are the first run row's
      obtain ⟨_, _, _, _, _, _, _, _, hkm⟩ := bracket_spec t rows dist _ _ p hR hb hne
      have hkm := hkm (by omega)
      rw [C15_ends_best_short t rows dist _ _ _ x hR h hb hne hkm, C15_ends_best_short t rows dist' _ _ _ x' hR h' hb' hne hkm]
      exact ⟨le_refl _, fun _ => le_refl _, fun hc => absurd hc (by omega)⟩
  · -- an end of the table: both are the time at the speed of row `i − 1` (row 0 when `i = 0`)
    obtain ⟨hbpos, hkpos, hx⟩ := best_same_row t rows dist _ x h (best_degenerate t rows dist i x h hi (by omega))
    obtain ⟨_, _, hx'⟩ := best_same_row t rows dist' _ x' h' (best_degenerate t rows dist' i x' h' hi' (by omega))
    have hdq : (dist : Rat) / 1000 ≤ (dist' : Rat) / 1000 :=
      div_le_div_of_nonneg_right (Nat.cast_le.2 hdd) (by norm_num)
    refine ⟨?_, fun hlt => ?_, fun hsi => ?_⟩
    · rw [hx, hx', div_le_div_iff_of_pos_right hkpos]
      exact mul_le_mul_of_nonneg_right hdq hbpos.le
    · -- `i = 0`: the first row is not shorter than `d'`
      have hge := scan_ge t rows ((dist' : Rat) / 1000) (hi'.symm ▸ hlt)
      rw [hi'] at hge
      obtain rfl : i = 0 := by omega
      rw [hx', div_le_iff₀ hkpos, mul_comm (t.bestQ _)]
      exact mul_le_mul_of_nonneg_right hge hbpos.le
    · -- `i = rows.length`: the last row is shorter than `d`
      have hlt := scan_lt t rows ((dist : Rat) / 1000) (i - 1) (by omega) (by omega)
      rw [hx, le_div_iff₀ hkpos, mul_comm]
      exact mul_le_mul_of_nonneg_right hlt.le hbpos.le

end chain

/-- **best monotone** — for every table whose run rows pass `runOK` and `chainOK`: over *all* distances
    (whatever rows bracket them, across the track → road switch and both ends of the table) the
    interpolated open best never decreases as the distance grows -/
theorem C15_best_mono (t : Table) (rows : List Row) (dist dist' : Nat) (x x' : Rat) (hks : 0 < t.kmScale)
    (hR : runOK rows = true) (hC : chainOK (runKms rows) (runBests rows) = true) (hdd : dist ≤ dist')
    (h : bestByDistance t rows dist = .ok x) (h' : bestByDistance t rows dist' = .ok x') : x ≤ x' := by
  have hdq : (dist : Rat) / 1000 ≤ (dist' : Rat) / 1000 := by
    have : (dist : Rat) ≤ (dist' : Rat) := by exact_mod_cast hdd
    linarith
  rcases Nat.eq_or_lt_of_le (scanIdx_mono t rows _ _ hdq) with hii | hlt
  · exact (best_piece t rows dist dist' _ x x' hks hR hC hdd h h' rfl hii.symm).1
  · -- different rows: `x` is at most the best of the row `d` stops at, which by the chain condition is at most
    -- the best of the row before the one `d'` stops at, which is at most `x'`
    have hle' := scanIdx_le_length t rows ((dist' : Rat) / 1000)
    have hs := runStart_le_scanIdx t rows ((dist : Rat) / 1000)
    have hU := (best_piece t rows dist dist _ x x hks hR hC (le_refl _) h h rfl rfl).2.1 (by omega)
    have hL := (best_piece t rows dist' dist' _ x' x' hks hR hC (le_refl _) h' h' rfl rfl).2.2 (by omega)
    have hmid := bestQ_mono t _ _ ((chainOK_spec t rows hC hks _ (by omega)).2 _ hlt)
    exact le_trans hU (le_trans hmid hL)

/-- **nearest** — when no run row lies strictly inside a reachable bracket (`noSeam`): of all run rows,
    none shorter than `d` is longer than the lower bracket row and none at least `d` is shorter than the
    upper bracket row.  With `C15_factor_between` / `C15_best_between` this is the property's clause
    "between the nearest shorter and longer tabulated events" (ties: the bracket rows are among the
    nearest candidates). -/
theorem C15_bracket_nearest (t : Table) (rows : List Row) (dist fx fx1 : Nat) (p : Rat) (hks : 0 < t.kmScale)
    (hR : runOK rows = true) (hS : noSeam (runKms rows) = true) (hd : 0 < dist)
    (hb : rowByDistance t rows dist = .ok (fx, fx1, p)) (hne : fx ≠ fx1)
    (r : Row) (hr : r ∈ rows.drop (runStart rows)) :
    (t.kmQ r < (dist : Rat) / 1000 → t.kmQ r ≤ t.kmQ (rows.getD fx default)) ∧
    ((dist : Rat) / 1000 ≤ t.kmQ r → t.kmQ (rows.getD fx1 default) ≤ t.kmQ r) := by
  obtain ⟨hadj, hidx, h1, hlow, hhigh, _, _, hstrict, hprekm⟩ := bracket_spec t rows dist fx fx1 p hR hb hne
  obtain ⟨j, hj⟩ : ∃ j, scanIdx t rows ((dist : Rat) / 1000) = runStart rows + j := ⟨_, rfl⟩
  have hreach := scan_reach t rows _ j hks hj (by omega)
  -- the check at `j`, read on the rows: its lower distance is the lower bracket row's
  unfold noSeam at hS
  simp only [List.all_eq_true, List.mem_range, Bool.or_eq_true, Bool.not_eq_true', Bool.and_eq_false_iff,
    decide_eq_false_iff_not, runKms_length, runKms_getD] at hS
  have hlowkm : (if j = 0 then 0 else (rows.getD (runStart rows + (j - 1)) default).km) = (rows.getD fx default).km := by
    split
    · exact (hprekm (by omega)).symm
    · rw [show runStart rows + (j - 1) = fx by omega]
  rcases hS j (by omega) with hnr | hseam
  · rw [hreach] at hnr; cases hnr
  · have hseam := hseam r.km (List.mem_map_of_mem hr)
    rw [hlowkm, show runStart rows + j = fx1 by omega] at hseam
    have hstrict' : t.kmQ (rows.getD fx default) < (dist : Rat) / 1000 := by
      rcases Nat.lt_or_ge (runStart rows) fx1 with hc | hc
      · exact hstrict hc
      · rw [kmQ_zero t _ (hprekm (by omega))]
        have : (0 : Rat) < (dist : Rat) := by exact_mod_cast hd
        positivity
    have hseam : ¬ t.kmQ (rows.getD fx default) < t.kmQ r ∨ ¬ t.kmQ r < t.kmQ (rows.getD fx1 default) := by
      simpa only [← kmQ_lt_iff t _ _ hks] using hseam
    constructor
    · intro hlt; by_contra hcon
      rcases hseam with c | c
      · exact c (not_le.mp hcon)
      · exact c (lt_of_lt_of_le hlt hhigh)
    · intro hge; by_contra hcon
      rcases hseam with c | c
      · exact c (lt_of_lt_of_le hstrict' hge)
      · exact c (not_le.mp hcon)

/-- … and they do bracket `d`: lower ≤ `d` ≤ upper, adjacent rows, weight in `[0,1]` -/
theorem C15_bracket (t : Table) (rows : List Row) (dist fx fx1 : Nat) (p : Rat) (hR : runOK rows = true)
    (hb : rowByDistance t rows dist = .ok (fx, fx1, p)) (hne : fx ≠ fx1) :
    fx + 1 = fx1 ∧ fx1 < rows.length ∧
    t.kmQ (rows.getD fx default) ≤ (dist : Rat) / 1000 ∧ (dist : Rat) / 1000 ≤ t.kmQ (rows.getD fx1 default) ∧
    0 ≤ p ∧ p ≤ 1 := by
  obtain ⟨hadj, _, h1, hlow, hhigh, _⟩ := bracket_spec t rows dist fx fx1 p hR hb hne
  obtain ⟨hp0, hp1, _⟩ := bracket_weight t rows dist fx fx1 p hR hb hne
  exact ⟨hadj, h1, hlow, hhigh, hp0, hp1⟩

/-- a degenerate bracket `(fx, fx, _)` — beyond the last run row, or below a run section that starts the table —
    gives that row's factor … -/
theorem C15_ends_factor_same_row (t : Table) (rows : List Row) (age : Rat) (dist fx : Nat) (p : Rat)
    (hb : rowByDistance t rows dist = .ok (fx, fx, p)) :
    factorByDistance t rows age dist = rowFactor t (rows.getD fx default) age := by
  unfold factorByDistance
  rw [hb]
  simp only
  cases hd : getDistance (rows.getD fx default).event with
  | none => rfl
  | some ds =>
    simp only
    cases hf : rowFactor t (rows.getD fx default) age with
    | error e => rfl
    | ok fs => simp

/-- … and extrapolates the open best at that row's speed -/
theorem C15_ends_best_same_row (t : Table) (rows : List Row) (dist fx : Nat) (x : Rat)
    (h : bestByDistance t rows dist = .ok x) (hb : rowByDistance t rows dist = .ok (fx, fx, 0)) :
    x = (dist : Rat) / 1000 * t.bestQ (rows.getD fx default) / t.kmQ (rows.getD fx default) :=
  (best_same_row t rows dist fx x h hb).2.2

/-- every run row shorter than `d`: the scan ends on the last row -/
theorem C15_ends_beyond (t : Table) (rows : List Row) (dist : Nat) (hs : runStart rows < rows.length)
    (hall : ∀ r ∈ rows.drop (runStart rows), t.kmQ r < (dist : Rat) / 1000) :
    rowByDistance t rows dist = .ok (rows.length - 1, rows.length - 1, 0) := by
  have hidx : scanIdx t rows ((dist : Rat) / 1000) = rows.length := by
    unfold scanIdx
    have : (rows.drop (runStart rows)).findIdx (fun r => decide ((dist : Rat) / 1000 ≤ t.kmQ r)) =
        (rows.drop (runStart rows)).length := by
      rw [List.findIdx_eq_length]
      intro r hr
      simpa using hall r hr
    rw [this, List.length_drop]; omega
  rcases rowByDistance_cases t rows dist with ⟨h0, _⟩ | ⟨_, h0, _⟩ | ⟨_, _, hlt, _⟩ | ⟨_, _, _, h⟩
  · omega
  · omega
  · omega
  · exact h

/-- a bracket whose lower row's name carries no distance (the row before `"50"`): the factor of the
    upper row, i.e. of the first run row … -/
theorem C15_ends_factor_short (t : Table) (rows : List Row) (age : Rat) (dist fx fx1 : Nat) (p : Rat)
    (hb : rowByDistance t rows dist = .ok (fx, fx1, p))
    (hnd : getDistance (rows.getD fx default).event = none) :
    factorByDistance t rows age dist = rowFactor t (rows.getD fx1 default) age := by
  unfold factorByDistance
  rw [hb]
  simp only [hnd]

/-- every distance up to the first run row's is bracketed by the row before `"50"` and `"50"` — or refused with
    `zeroDiv`, which the model does when the two rows' distances coincide: that cannot happen under `runOK` unless
    the distance scale is 0 (every scaled distance is then 0), and no scale is assumed here -/
theorem C15_ends_short_bracket (t : Table) (rows : List Row) (dist : Nat) (hR : runOK rows = true)
    (hpos : 0 < runStart rows)
    (hd : (dist : Rat) / 1000 ≤ t.kmQ (rows.getD (runStart rows) default)) :
    (∃ p, rowByDistance t rows dist = .ok (runStart rows - 1, runStart rows, p)) ∨
      rowByDistance t rows dist = .error .zeroDiv := by
  obtain ⟨hs, _, _⟩ := runOK_spec rows hR
  have hidx : scanIdx t rows ((dist : Rat) / 1000) = runStart rows := by
    unfold scanIdx
    have : (rows.drop (runStart rows)).findIdx (fun r => decide ((dist : Rat) / 1000 ≤ t.kmQ r)) = 0 := by
      rw [List.drop_eq_getElem_cons hs, List.findIdx_cons]
      rw [getD_of_lt rows _ default hs] at hd
      simp [hd]
    rw [this]; rfl
  rcases rowByDistance_cases t rows dist with ⟨h0, _⟩ | ⟨_, h0, _⟩ | ⟨_, _, hlt, hcase⟩ | ⟨_, _, h0, _⟩
  · omega
  · omega
  · rcases hcase with ⟨_, h⟩ | ⟨_, h⟩
    · exact Or.inr h
    · left
      obtain ⟨p', h⟩ : ∃ p', rowByDistance t rows dist = .ok
          (scanIdx t rows ((dist : Rat) / 1000) - 1, scanIdx t rows ((dist : Rat) / 1000), p') := ⟨_, h⟩
      rw [hidx] at h
      exact ⟨p', h⟩
  · omega

/-- for a code that is not a row name, `factor` / `best` are the distance interpolations above
    (metres from the code, or the harness's hint where binary floating point truncated them) -/
theorem C15_observable (t : Table) (gender : String) (age : Rat) (event : String) (hint : Option Nat)
    (k : Kind) (g : Gender) (dist : Nat) (hk : kindOf event = some k) (hg : normGender gender = .ok g)
    (hnot : (t.rows g).find? (fun r => r.event == upper event) = none)
    (hd : distOf (upper event) hint = some dist) :
    factor t gender age event hint = factorByDistance t (t.rows g) age dist ∧
    best t gender event hint = bestByDistance t (t.rows g) dist := by
  unfold factor best factorCore bestCore
  simp only [hk, hg, hnot, hd]
  exact ⟨trivial, trivial⟩

/-- what `Oblig/C15` decides (and `Oblig/C14` for the distance scale), for the four regenerated row lists at once -/
theorem tables_ok (t : Table) (g : Gender) (ht : t = Gen.wma2015 ∨ t = Gen.wma2023) :
    0 < t.kmScale ∧ distOK (t.rows g) = true ∧ noSeam (runKms (t.rows g)) = true := by
  rcases ht with rfl | rfl <;> cases g
  · exact ⟨(bestsOK_spec _ Oblig.C14.bests_ok_2015).2.1, Oblig.C15.dist_ok_2015_m, Oblig.C15.no_seam_2015_m⟩
  · exact ⟨(bestsOK_spec _ Oblig.C14.bests_ok_2015).2.1, Oblig.C15.dist_ok_2015_f, Oblig.C15.no_seam_2015_f⟩
  · exact ⟨(bestsOK_spec _ Oblig.C14.bests_ok_2023).2.1, Oblig.C15.dist_ok_2023_m, Oblig.C15.no_seam_2023_m⟩
  · exact ⟨(bestsOK_spec _ Oblig.C14.bests_ok_2023).2.1, Oblig.C15.dist_ok_2023_f, Oblig.C15.no_seam_2023_f⟩

theorem distOK_parts (rows : List Row) (h : distOK rows = true) :
    runOK rows = true ∧ chainOK (runKms rows) (runBests rows) = true := by
  unfold distOK at h; simpa [Bool.and_eq_true] using h

/-- the open best by distance never decreases, on all four regenerated tables -/
theorem C15_best_mono_tables (t : Table) (g : Gender) (ht : t = Gen.wma2015 ∨ t = Gen.wma2023)
    (dist dist' : Nat) (x x' : Rat) (hdd : dist ≤ dist')
    (h : bestByDistance t (t.rows g) dist = .ok x) (h' : bestByDistance t (t.rows g) dist' = .ok x') : x ≤ x' := by
  obtain ⟨hks, hd, _⟩ := tables_ok t g ht
  obtain ⟨hR, hC⟩ := distOK_parts _ hd
  exact C15_best_mono _ _ dist dist' x x' hks hR hC hdd h h'

/-- the bracket rows are nearest tabulated events, on all four regenerated tables -/
theorem C15_bracket_nearest_tables (t : Table) (g : Gender) (ht : t = Gen.wma2015 ∨ t = Gen.wma2023)
    (dist fx fx1 : Nat) (p : Rat) (hd : 0 < dist)
    (hb : rowByDistance t (t.rows g) dist = .ok (fx, fx1, p)) (hne : fx ≠ fx1)
    (r : Row) (hr : r ∈ (t.rows g).drop (runStart (t.rows g))) :
    (t.kmQ r < (dist : Rat) / 1000 → t.kmQ r ≤ t.kmQ ((t.rows g).getD fx default)) ∧
    ((dist : Rat) / 1000 ≤ t.kmQ r → t.kmQ ((t.rows g).getD fx1 default) ≤ t.kmQ r) := by
  obtain ⟨hks, hdo, hS⟩ := tables_ok t g ht
  exact C15_bracket_nearest _ _ dist fx fx1 p hks (distOK_parts _ hdo).1 hS hd hb hne r hr

/-! ### non-vacuity on the regenerated tables (kernel-evaluated; values of the pinned data) -/

def bracketIs (r : Except Err (Nat × Nat × Rat)) (fx fx1 : Nat) (p : Rat) : Bool :=
  match r with
  | .ok (a, b, q) => a == fx && b == fx1 && q == p
  | .error _ => false

section examples
-- an interior bracket (women 2023, 7 km: rows 4MT / 8000), a degenerate one beyond 200 km, the one below 50 m
example : bracketIs (rowByDistance Gen.wma2023 Gen.wma2023.f 7000) 49 50 (8791/24416) = true := by decide +kernel
example : bracketIs (rowByDistance Gen.wma2023 Gen.wma2023.f 250000) 72 72 0 = true := by decide +kernel
example : bracketIs (rowByDistance Gen.wma2023 Gen.wma2023.f 30) 28 29 (3/5) = true := by decide +kernel
-- factor and best by distance are defined there, for a half-integer age too
example : okEq (factor Gen.wma2023 "f" (81/2) "7K") (7508507/7820000) = true := by decide +kernel
example : okEq (best Gen.wma2023 "f" "7K") (34462268400/27867937) = true := by decide +kernel
-- the ends: beyond 200 km the last row's factor and its speed; below 50 m the 50 m row (also under 14,
-- where the throw row before it has no factor)
example : okEq (factor Gen.wma2023 "Male" 40 "250000") (606/625) = true ∧
    okEq (factor Gen.wma2023 "Male" 40 "200K") (606/625) = true ∧
    okEq (best Gen.wma2023 "Male" "250000") 66000 = true := by decide +kernel
example : okEq (factor Gen.wma2023 "Male" 10 "30") (8269/10000) = true ∧
    okEq (factor Gen.wma2023 "Male" 10 "50") (8269/10000) = true ∧
    okEq (best Gen.wma2023 "Male" "30") (277/50) = true := by decide +kernel
-- 16093 m lies past get_distance('10M') = 16090 m but before the 10M row (16093.44 m): the weight is clamped
example : okEq (factor Gen.wma2023 "Male" 40 "16093") (4837/5000) = true ∧
    okEq (factor Gen.wma2023 "Male" 40 "10M") (4837/5000) = true := by decide +kernel
end examples

/-! ### witnesses for the repairs: arithmetic on literals copied from the tables of the pinned commit
(`fixes/wma-2-*.diff`: beyond the last row the weight's denominator was
`get_distance("200K") − get_distance("200K") = 0` — nothing to state beyond that arithmetic) -/

/-- `fixes/wma-4-*.diff` (the weight is clamped): 16093 m between `15K` (15000) and `10M` (`get_distance` 16090)
    had a weight above 1 -/
theorem pinned_weight_exceeds_one : ¬ (((16093 : Rat) - 15000) / (16090 - 15000) ≤ 1) := by decide +kernel

/-- `fixes/wma-7-*.diff` (men's row order), 2023 factors at age 110: 8046 m, taken 46/2000 of the way from 8000
    (0.2142) to 10000 (0.04), fell below all of 8000 / 8K / 5MT / 5M (0.2142, 0.236, 0.2142, 0.2361) -/
theorem pinned_seam_factor_outside :
    lerp (46 / 2000) (2142 / 10000) (400 / 10000) < min (min (2142 / 10000) (2360 / 10000)) (min (2142 / 10000) (2361 / 10000)) := by
  decide +kernel

/-- `fixes/wma-7-*.diff`: in the order `8000, 10000, 5MT` the 5MT row lies strictly inside the bracket 8000 / 10000 -/
theorem pinned_mens_seam : noSeam [8000000, 10000000, 8046720] = false ∧ noSeam [8000000, 8046720, 10000000] = true := by
  decide

end AthlibVerif.Props.C15
