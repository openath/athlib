import AthlibVerif.Lemmas.HJ
import AthlibVerif.Lemmas.CardShape
import AthlibVerif.Lemmas.Consec
import AthlibVerif.Lemmas.RoundLim
import AthlibVerif.Lemmas.Reachable
/-!
# C02 — High jump: only rule-conforming trials are recorded; refusals change nothing

Theorems about `HJ.step`, the transcription of `athlib/highjump.py` (agreement of the real object with
`step` on every call of an exhaustive bounded exploration and of long random walks is the
correspondence, tools/checks/c02.py).  Everything here holds for **all** states and operations unless a
reachability hypothesis is written out; reachability is "produced from the empty competition by any
finite sequence of calls, accepted or refused" (`Reachable`, declared with `DrawnInv` / `StartedInv` in
Lemmas/Reachable, which the lemma files need too).  The invariants behind the reachable-state theorems are kept by
every accepted call (`X.accepts` over `Accepts`) and a refused call changes nothing (`step_cases`); here they are
carried along `Reachable` and read off.  Order of the file: what holds in all states; then every reachable state,
invariant by invariant — `DrawnInv` / `StartedInv`, the card (`AllFlags`, `AllConsec`), the attempt limit (`LimInv`,
which discharges the side condition `roundLim = 3` of the card theorems) — with the non-vacuity examples (`runOps`)
after the card theorems and among the last.
-/
namespace AthlibVerif.Props.C02
open AthlibVerif AthlibVerif.HJ

/-- **Refusals change nothing.** A call that is not accepted leaves the *whole* state — hence every
    observable: state, heights, cards, bests, places, action log — exactly as before.  All states. -/
theorem C02_atomic (c : Comp) (op : Op) (h : (step c op).2 ≠ .ok) : (step c op).1 = c :=
  step_refused c op h

/-- the action log records exactly the accepted calls, in order -/
theorem C02_log_only_accepted (c : Comp) (op : Op) :
    (step c op).1.log = if (step c op).2 = .ok then c.log ++ [op] else c.log := by
  rcases step_cases c op with ⟨c', ha, e⟩ | ⟨e1, e2⟩
  · rw [e, if_pos rfl]; exact ha.log
  · rw [e1, if_neg e2]

/-- athletes join only while the competition is scheduled, and only with a fresh bib -/
theorem C02_add_only_scheduled (c : Comp) (b : Nat) :
    (step c (.add b)).2 = .ok ↔ (c.phase = .scheduled ∧ c.find b = none) := by
  rw [step_add]; split <;> simp_all

/-- the bar only rises outside a jump-off; it is never set once the competition is finished or drawn -/
theorem C02_bar_rises_outside_jumpoff (c : Comp) (h : Int) :
    (step c (.bar h)).2 = .ok ↔
      ((c.phase = .scheduled ∨ c.phase = .started ∨ c.phase = .jumpoff ∨ c.phase = .won) ∧
       (c.phase = .jumpoff ∨ c.heights.getLast?.getD 0 < h)) := by
  show _ ↔ barAllowed c h
  rw [step_bar]
  by_cases hb : barAllowed c h <;> simp [hb]

/-- an accepted trial was made by a registered athlete who was neither out (eliminated) nor done at
    this height (dismissed) and had attempts left: fewer than `roundLim` at the current height -/
theorem C02_attempt_limit (c : Comp) (b : Nat) (t : Trial) (h : (step c (.trial b t)).2 = .ok) :
    ∃ j, c.find b = some j ∧ trialAllowed c j = true ∧ c.heights ≠ [] ∧ j.eliminated = false ∧ j.dismissed = false ∧
      ((padCard j.card c.heights.length).getLast?.getD []).length < j.roundLim := by
  obtain ⟨j, j', hj, ha, hh, hact, _⟩ := accepted_trial c b t h
  exact ⟨j, hj, ha, hh, (act_eq_some.1 hact).1⟩

/-- nobody jumps, passes or retires once out (eliminated) or done at the current height (dismissed) -/
theorem C02_no_trial_when_out (c : Comp) (b : Nat) (t : Trial) (j : Jumper) (hj : c.find b = some j)
    (hout : j.eliminated = true ∨ j.dismissed = true) : (step c (.trial b t)).2 ≠ .ok := by
  intro h
  obtain ⟨_, _, he, hd, _⟩ := (trial_ok_iff c b t j hj).1 h
  rcases hout with h | h <;> simp_all

/-- a call by a registered athlete once a bar height exists is accepted or refused with the
    rule-violation error, nothing else; `add` and `bar` calls always are -/
theorem C02_refusal_is_rule_violation (c : Comp) (op : Op)
    (hdom : match op with
      | .trial b _ => (c.find b).isSome ∧ c.heights ≠ []
      | _ => True) :
    (step c op).2 = .ok ∨ (step c op).2 = .rule := by
  cases op with
  | add b => rw [step_add]; split <;> simp
  | bar x => rw [step_bar]; split <;> simp
  | trial b t =>
    rcases step_trial c b t with ⟨j, j', _, _, _, _, hs⟩ | ⟨_, h2, hk, ha⟩
    · rw [hs]; simp
    · right
      cases ho : (step c (.trial b t)).2 with
      | ok => exact absurd ho h2
      | rule => rfl
      | key => have := hk.1 ho; simp [this] at hdom
      | assert => exact absurd (ha ho) hdom.2

theorem stage_le_of_phaseStep (p p' : Phase) (h : PhaseStep p p')
    (hp : p = .started ∨ p = .jumpoff ∨ p = .won) : stage p ≤ stage p' := by
  rcases h with h | h | h | h | ⟨h, _⟩ <;> rcases hp with hp | hp | hp <;> subst_vars <;> simp [stage]

/-- the state only moves forward: scheduled < started < jump-off = won < finished = drawn.
    (For `finished`/`drawn` see `C02_terminal_absorbing`: nothing is accepted there at all.) -/
theorem C02_phase_forward (c : Comp) (op : Op) (hf : c.phase ≠ .finished) (hd : c.phase ≠ .drawn) :
    stage c.phase ≤ stage (step c op).1.phase := by
  cases op with
  | add b => rw [step_add]; split <;> simp [addResult]
  | bar x =>
    rw [step_bar]; split
    · simp only [barResult]; split <;> simp_all [stage]
    · simp
  | trial b t =>
    rcases step_trial c b t with ⟨j, j', _, ha, _, _, hs⟩ | ⟨h1, _⟩
    · rw [hs]
      have hr := (rank_frame (logTrial c b t j')).2
      simp only [logTrial_phase] at hr
      apply stage_le_of_phaseStep _ _ hr
      unfold trialAllowed at ha
      cases hp : c.phase <;> simp_all
    · rw [h1]; exact Nat.le_refl _

/-- nothing is accepted once the competition is finished; nor once it is drawn, given `DrawnInv` -/
theorem C02_terminal_absorbing (c : Comp) (op : Op) (hinv : DrawnInv c)
    (h : c.phase = .finished ∨ c.phase = .drawn) : (step c op).2 ≠ .ok := by
  cases op with
  | add b => rw [step_add]; rcases h with h | h <;> simp [h]
  | bar x => rw [step_bar]; rcases h with h | h <;> simp [h, barAllowed]
  | trial b t =>
    intro hok
    obtain ⟨j, hj, ha, _, he, _, _⟩ := C02_attempt_limit c b t hok
    rcases h with h | h
    · simp [trialAllowed, h] at ha
    · have hm : j ∈ c.jumpers := List.mem_of_find?_eq_some hj
      have := hinv h j hm
      simp_all

/-- **Nothing is accepted once the competition is finished or drawn** — every reachable state. -/
theorem C02_terminal_absorbing_reachable (c : Comp) (op : Op) (hr : Reachable c)
    (h : c.phase = .finished ∨ c.phase = .drawn) : (step c op).2 ≠ .ok ∧ (step c op).1 = c :=
  ⟨C02_terminal_absorbing c op (inv_reachable c hr).1 h,
   C02_atomic c op (C02_terminal_absorbing c op (inv_reachable c hr).1 h)⟩

/-- **The state never moves backwards** along any call sequence from the empty competition. -/
theorem C02_phase_forward_reachable (c : Comp) (op : Op) (hr : Reachable c) :
    stage c.phase ≤ stage (step c op).1.phase := by
  by_cases h : c.phase = .finished ∨ c.phase = .drawn
  · rw [(C02_terminal_absorbing_reachable c op hr h).2]; exact Nat.le_refl _
  · exact C02_phase_forward c op (fun hf => h (Or.inl hf)) (fun hd => h (Or.inr hd))

/-- **A refused call raises the rule-violation error** (for every bib of the competition, every reachable state):
    the height-count assertion is unreachable because heights exist whenever trials are admitted. -/
theorem C02_refused_means_rule_violation (c : Comp) (op : Op) (hr : Reachable c)
    (hbib : match op with | .trial b _ => (c.find b).isSome | _ => True) :
    (step c op).2 = .ok ∨ (step c op).2 = .rule := by
  cases op with
  | add b => exact C02_refusal_is_rule_violation c _ trivial
  | bar x => exact C02_refusal_is_rule_violation c _ trivial
  | trial b t =>
    by_cases hh : c.heights = []
    · right
      have hs := (inv_reachable c hr).2.1 hh
      obtain ⟨j, hj⟩ := Option.isSome_iff_exists.1 hbib
      simp only [step, hj, trialAllowed, hs]
      simp
    · exact C02_refusal_is_rule_violation c _ ⟨hbib, hh⟩

/-- **Athletes join only before the first bar height**, in every reachable state. -/
theorem C02_add_before_first_height (c : Comp) (b : Nat) (hr : Reachable c) :
    (step c (.add b)).2 = .ok ↔ (c.heights = [] ∧ c.find b = none) := by
  have h2 : c.heights = [] ↔ c.phase = .scheduled := (inv_reachable c hr).2
  rw [C02_add_only_scheduled, h2]

theorem wf_reachable (c : Comp) (h : Reachable c) : WF c := by
  induction h with
  | init => exact ⟨by simp, by simp⟩
  | step c op _ ih => exact step_WF c op ih

theorem allFlags_reachable (c : Comp) (h : Reachable c) : AllFlags c :=
  h.of_accepts (fun j hj => by cases hj) (fun c _ _ hr ih => ih.accepts (wf_reachable c hr))

/-- **Never more than three attempts at a height, failures first** — every card of every reachable competition:
    each cell holds at most three marks, and all but the last are failures (a clearance, pass or retirement closes
    the cell). -/
theorem C02_card_shape (c : Comp) (h : Reachable c) (j : Jumper) (hj : j ∈ c.jumpers) (cell : List Trial)
    (hc : cell ∈ j.card) : cell.dropLast.all (· == .x) = true ∧ cell.length ≤ 3 :=
  (allFlags_reachable c h j hj).cells cell hc

/-- no card is longer than the list of heights; an athlete who is out is also done at the current height; the
    attempt limit is one or three (which of the two, and when: `C02_limit_is_three_or_one`) -/
theorem C02_flags_follow_card (c : Comp) (h : Reachable c) (j : Jumper) (hj : j ∈ c.jumpers) :
    j.card.length ≤ c.heights.length ∧ (j.eliminated = true → j.dismissed = true) ∧ (j.roundLim = 1 ∨ j.roundLim = 3) :=
  ⟨(allFlags_reachable c h j hj).len, (allFlags_reachable c h j hj).outDone, (allFlags_reachable c h j hj).lim⟩

/-- **An accepted trial goes into an open cell**: in every reachable state, the athlete whose trial is accepted has
    only failures — fewer than the attempt limit — at the current height, so nobody jumps again after clearing,
    passing or retiring at a height, and nobody gets a fourth attempt. -/
theorem C02_accepted_trial_open_cell (c : Comp) (hr : Reachable c) (b : Nat) (t : Trial)
    (h : (step c (.trial b t)).2 = .ok) :
    ∃ j, c.find b = some j ∧
      let cur := (padCard j.card c.heights.length).getLast?.getD []
      cur.all (· == .x) = true ∧ cur.length < j.roundLim ∧ cur.length < 3 := by
  obtain ⟨j, hj, _, _, he, hd, hlt⟩ := C02_attempt_limit c b t h
  have hf := allFlags_reachable c hr j (List.mem_of_find?_eq_some hj)
  refine ⟨j, hj, hf.openCell he hd, hlt, ?_⟩
  rcases hf.lim with e | e <;> omega

theorem allConsec_reachable (c : Comp) (h : Reachable c) : AllConsec c :=
  h.of_accepts (fun j hj => by cases hj)
    (fun c _ _ hr ih => ih.accepts (wf_reachable c hr) (allFlags_reachable c hr))

/-- **Three consecutive failures, read off the card.**  In every reachable state, for every athlete who has not been
    re-instated for a jump-off (attempt limit still three): the number of failures on the card since the last
    clearance (passes and skipped heights do not interrupt the run) is at most three, and the athlete is out
    exactly when it has reached three or the card shows a retirement. -/
theorem C02_three_consecutive_failures (c : Comp) (h : Reachable c) (j : Jumper) (hj : j ∈ c.jumpers)
    (h3 : j.roundLim = 3) :
    trailingX j.card.flatten ≤ 3 ∧
    (j.eliminated = true ↔ (j.card.flatten.contains .r = true ∨ 3 ≤ trailingX j.card.flatten)) := by
  have hc := allConsec_reachable c h j hj
  have e := hc.count h3
  rw [← e]
  exact ⟨hc.bound h3, hc.out h3⟩

/-- **Accepted exactly when the rules allow it — read off the card.**  In a state whose test the athlete passes
    (`trialAllowed`: started, jump-off, or first place once won or drawn), for a registered athlete who has not been
    re-instated for a jump-off, a cleared / failed / passed / retired call is accepted **if and only if** a bar height
    has been set, the card shows no retirement, fewer than three failures since the last clearance, and nothing but
    failures at the current height. -/
theorem C02_trial_accepted_iff_allowed (c : Comp) (hr : Reachable c) (b : Nat) (t : Trial) (j : Jumper)
    (hj : c.find b = some j) (h3 : j.roundLim = 3) (hph : trialAllowed c j = true) :
    (step c (.trial b t)).2 = .ok ↔
      (c.heights ≠ [] ∧ j.card.flatten.contains .r = false ∧ trailingX j.card.flatten < 3 ∧
        allX ((padCard j.card c.heights.length).getLast?.getD []) = true) := by
  have hm : j ∈ c.jumpers := List.mem_of_find?_eq_some hj
  have hf := allFlags_reachable c hr j hm
  have hc := allConsec_reachable c hr j hm
  have hin := hc.in_iff h3
  rw [hc.count h3] at hin
  rw [trial_ok_iff c b t j hj]
  constructor
  · rintro ⟨_, hh, he, hd, _⟩
    exact ⟨hh, (hin.1 he).1, (hin.1 he).2, hf.openCell he hd⟩
  · rintro ⟨hh, hnr, hlt, hopen⟩
    have he := hin.2 ⟨hnr, hlt⟩
    have hd : j.dismissed = false := by
      cases hdd : j.dismissed with
      | false => rfl
      | true => have := hc.done h3 hdd he; rw [hopen] at this; cases this
    have hlen := open_cell_le_trailing j.card c.heights.length hf.len hopen
    exact ⟨hph, hh, he, hd, by omega⟩

/-- `C02_trial_accepted_iff_allowed` while the competition is in progress (`started`), when the state test is always
    passed -/
theorem C02_trial_accepted_iff (c : Comp) (hr : Reachable c) (b : Nat) (t : Trial) (j : Jumper)
    (hj : c.find b = some j) (h3 : j.roundLim = 3) (hph : c.phase = .started) :
    (step c (.trial b t)).2 = .ok ↔
      (c.heights ≠ [] ∧ j.card.flatten.contains .r = false ∧ trailingX j.card.flatten < 3 ∧
        allX ((padCard j.card c.heights.length).getLast?.getD []) = true) :=
  C02_trial_accepted_iff_allowed c hr b t j hj h3 (trialAllowed_underway j (Or.inl hph))

/-- who may act at all: everybody while the competition is `started` or in a `jumpoff`, only an athlete in first place
    once it is `won` (or `drawn`), nobody before the first height is set or after it is `finished` -/
theorem C02_state_gate (c : Comp) (b : Nat) (t : Trial) (j : Jumper) (hj : c.find b = some j)
    (h : (step c (.trial b t)).2 = .ok) :
    c.phase = .started ∨ c.phase = .jumpoff ∨ ((c.phase = .won ∨ c.phase = .drawn) ∧ j.place = 1) := by
  exact (trialAllowed_iff c j).1 ((trial_ok_iff c b t j hj).1 h).1

/-! non-vacuity: a reachable drawn competition, a reachable jump-off, a refused call (kernel-evaluated) -/
def runOps (ops : List Op) : Comp := ops.foldl (fun c op => (step c op).1) {}

theorem reachable_runOps (ops : List Op) : Reachable (runOps ops) := by
  suffices ∀ c, Reachable c → Reachable (ops.foldl (fun c op => (step c op).1) c) from this _ .init
  induction ops with
  | nil => intro c h; exact h
  | cons op rest ih => intro c h; exact ih _ (.step c op h)

example : (runOps [.add 1, .add 2, .bar 105, .trial 1 .o, .trial 2 .o, .bar 108, .trial 1 .r, .trial 2 .r]).phase = .drawn := by decide
example : (runOps [.add 1, .add 2, .bar 105, .trial 1 .x, .trial 1 .x, .trial 1 .x, .trial 2 .x, .trial 2 .x, .trial 2 .x]).phase = .jumpoff := by decide
example : (step (runOps [.add 1, .bar 105, .trial 1 .o]) (.trial 1 .o)).2 = .rule := by decide

theorem limInv_reachable (c : Comp) (h : Reachable c) : LimInv c :=
  h.of_accepts LimInv_init (fun c _ _ hr ih => ih.accepts (wf_reachable c hr))

/-- **The attempt limit is three, and one in a jump-off** — in every reachable competition: the number an accepted
    trial is measured against (`C02_attempt_limit`) is 3 for every athlete while the competition is scheduled, started
    or won, 1 for every athlete still in while a jump-off runs, and never anything else. -/
theorem C02_limit_is_three_or_one (c : Comp) (hr : Reachable c) (j : Jumper) (hj : j ∈ c.jumpers) :
    ((c.phase = .scheduled ∨ c.phase = .started ∨ c.phase = .won) → j.roundLim = 3) ∧
    (c.phase = .jumpoff → j.eliminated = false → j.roundLim = 1) ∧ (j.roundLim = 1 ∨ j.roundLim = 3) :=
  ⟨fun hq => (limInv_reachable c hr).regular hq j hj, fun hq he => (limInv_reachable c hr).jumpoff hq j hj he,
    (limInv_reachable c hr).either j hj⟩

/-- an accepted trial in a jump-off is the athlete's first and only attempt at that height; any accepted trial is at
    most the third -/
theorem C02_attempts_at_height (c : Comp) (hr : Reachable c) (b : Nat) (t : Trial) (h : (step c (.trial b t)).2 = .ok) :
    ∃ j, c.find b = some j ∧ ((padCard j.card c.heights.length).getLast?.getD []).length < 3 ∧
      (c.phase = .jumpoff → (padCard j.card c.heights.length).getLast?.getD [] = []) := by
  obtain ⟨j, hj, _, _, he, _, hlt⟩ := C02_attempt_limit c b t h
  have hm : j ∈ c.jumpers := List.mem_of_find?_eq_some hj
  obtain ⟨_, hjo, hei⟩ := C02_limit_is_three_or_one c hr j hm
  refine ⟨j, hj, by omega, fun hq => ?_⟩
  have := hjo hq he
  apply List.eq_nil_of_length_eq_zero
  omega

/-- `C02_trial_accepted_iff` with its side condition discharged: while the competition is in progress (`started`)
    **every** registered athlete's call is accepted if and only if the card allows it -/
theorem C02_trial_accepted_iff_started (c : Comp) (hr : Reachable c) (b : Nat) (t : Trial) (j : Jumper)
    (hj : c.find b = some j) (hph : c.phase = .started) :
    (step c (.trial b t)).2 = .ok ↔
      (c.heights ≠ [] ∧ j.card.flatten.contains .r = false ∧ trailingX j.card.flatten < 3 ∧
        allX ((padCard j.card c.heights.length).getLast?.getD []) = true) :=
  C02_trial_accepted_iff c hr b t j hj
    ((limInv_reachable c hr).regular (Or.inr (Or.inl hph)) j (List.mem_of_find?_eq_some hj)) hph

/-- in a jump-off a call of an athlete still in is accepted if and only if they have not yet attempted the current
    height (and it is not already closed for them) -/
theorem C02_jumpoff_accepted_iff (c : Comp) (hr : Reachable c) (b : Nat) (t : Trial) (j : Jumper)
    (hj : c.find b = some j) (hph : c.phase = .jumpoff) (he : j.eliminated = false) :
    (step c (.trial b t)).2 = .ok ↔
      (c.heights ≠ [] ∧ j.dismissed = false ∧ (padCard j.card c.heights.length).getLast?.getD [] = []) := by
  have h1 := (limInv_reachable c hr).jumpoff hph j (List.mem_of_find?_eq_some hj) he
  rw [trial_ok_iff c b t j hj]
  constructor
  · rintro ⟨_, hh, _, hd, hlt⟩
    exact ⟨hh, hd, List.eq_nil_of_length_eq_zero (by omega)⟩
  · rintro ⟨hh, hd, hnil⟩
    exact ⟨trialAllowed_underway j (Or.inr hph), hh, he, hd, by rw [hnil, h1]; exact Nat.zero_lt_one⟩

/-- `C02_three_consecutive_failures` with its side condition discharged: outside a jump-off (scheduled, started, won)
    **every** athlete is out exactly at three consecutive failures or on retirement, read off the card -/
theorem C02_out_iff_card (c : Comp) (hr : Reachable c) (j : Jumper) (hj : j ∈ c.jumpers)
    (hph : c.phase = .scheduled ∨ c.phase = .started ∨ c.phase = .won) :
    trailingX j.card.flatten ≤ 3 ∧
    (j.eliminated = true ↔ (j.card.flatten.contains .r = true ∨ 3 ≤ trailingX j.card.flatten)) :=
  C02_three_consecutive_failures c hr j hj ((limInv_reachable c hr).regular hph j hj)

/-- once the competition is won, the athlete in first place may go on: accepted if and only if the card allows it -/
theorem C02_trial_accepted_iff_won (c : Comp) (hr : Reachable c) (b : Nat) (t : Trial) (j : Jumper)
    (hj : c.find b = some j) (hph : c.phase = .won) (hp : j.place = 1) :
    (step c (.trial b t)).2 = .ok ↔
      (c.heights ≠ [] ∧ j.card.flatten.contains .r = false ∧ trailingX j.card.flatten < 3 ∧
        allX ((padCard j.card c.heights.length).getLast?.getD []) = true) :=
  C02_trial_accepted_iff_allowed c hr b t j hj
    ((limInv_reachable c hr).regular (Or.inr (Or.inr hph)) j (List.mem_of_find?_eq_some hj))
    ((trialAllowed_iff c j).2 (Or.inr (Or.inr ⟨Or.inl hph, hp⟩)))

/-- once the competition is won it is decided against everybody else: their calls are refused -/
theorem C02_won_others_refused (c : Comp) (b : Nat) (t : Trial) (j : Jumper) (hj : c.find b = some j)
    (hph : c.phase = .won) (hp : j.place ≠ 1) : (step c (.trial b t)).2 ≠ .ok := by
  intro h
  rcases C02_state_gate c b t j hj h with e | e | ⟨_, e⟩
  · rw [hph] at e; cases e
  · rw [hph] at e; cases e
  · exact hp e

/-- a won competition: the winner goes on alone, the other athlete is refused -/
example : let c := runOps [.add 1, .add 2, .bar 105, .trial 1 .o, .trial 2 .x, .trial 2 .x, .trial 2 .x]
    c.phase = .won ∧ (step c (.trial 2 .x)).2 = .rule := by decide +kernel

/-- **Whoever comes back after being out comes back for a jump-off only**: if an athlete is out before a call and in
    after it (re-instated by the ranking), the attempt limit is then 1 and a jump-off is on — nobody who went out with
    three failures or retired gets back into the competition proper. -/
theorem C02_back_only_with_one_attempt (c : Comp) (hr : Reachable c) (op : Op) (j j' : Jumper) (hj : j ∈ c.jumpers)
    (hj' : j' ∈ (step c op).1.jumpers) (hb : j'.bib = j.bib) (he : j.eliminated = true) (he' : j'.eliminated = false) :
    j'.roundLim = 1 ∧ (step c op).1.phase = .jumpoff :=
  ⟨step_back c op (wf_reachable c hr) j j' hj hj' hb he he', step_back_phase c op (wf_reachable c hr) j j' hj hj' hb he he'⟩

/-- non-vacuity: the sixth failure at the first height, which puts the second of two athletes out, brings both back
    for a jump-off -/
example : let c := runOps [.add 1, .add 2, .bar 105, .trial 1 .x, .trial 1 .x, .trial 1 .x, .trial 2 .x, .trial 2 .x]
    c.jumpers.map (·.eliminated) = [true, false] ∧
    (step c (.trial 2 .x)).1.jumpers.map (fun j => (j.eliminated, j.roundLim)) = [(false, 1), (false, 1)] ∧
    (step c (.trial 2 .x)).1.phase = .jumpoff := by decide +kernel

/-- a jump-off in progress: both athletes re-instated with one attempt each -/
example : (runOps [.add 1, .add 2, .bar 105, .trial 1 .x, .trial 1 .x, .trial 1 .x, .trial 2 .x, .trial 2 .x, .trial 2 .x]).jumpers.map
    (fun j => (j.roundLim, j.eliminated)) = [(1, false), (1, false)] := by decide +kernel
/-- and a second attempt at a jump-off height is refused -/
example : (step (runOps [.add 1, .add 2, .bar 105, .trial 1 .x, .trial 1 .x, .trial 1 .x, .trial 2 .x, .trial 2 .x, .trial 2 .x,
    .bar 104, .trial 1 .x]) (.trial 1 .x)).2 = .rule := by decide +kernel

/-- a failure, a pass, and two failures at the next height: three in a row on the card, out -/
example : (runOps [.add 1, .add 2, .bar 105, .trial 1 .x, .trial 1 .p, .bar 110, .trial 1 .x, .trial 1 .x]).jumpers.map
    (fun j => (j.roundLim, j.eliminated, trailingX j.card.flatten)) = [(3, true, 3), (3, false, 0)] := by decide +kernel

end AthlibVerif.Props.C02
