import AthlibVerif.Props.C02
import AthlibVerif.Lemmas.Ranking
import AthlibVerif.Lemmas.Places
import AthlibVerif.Lemmas.Best
import AthlibVerif.Lemmas.Winner
/-!
# C03 — High jump: final placings follow the countback rule and the jump-off result

Proved here, for all inputs:
* the ranking key order is a strict total order (countback: status, greatest height, failures at it,
  failures up to it);
* the ranking algorithm of `_rankj` (stable insertion sort + shared-place numbering) assigns every entry
  the place `1 +` number of entries with a strictly better key — equal keys share a place, places are a
  standard competition ranking, and they do not depend on the previous order (`C03_places_from_keys`);
  the model's `sortRanked` on bibs is that sort on the athletes' keys (`C03_sortRanked_is_key_sort`);
* a clearance never lowers an athlete's best, the best only changes by a clearance and is then the bar
  height cleared (`C03_best_*`);
* **the placing clause itself** (`C03`, `C03_places_every_decided_state`): in every state reachable from the empty
  competition whose phase is past `started` — jump-off, won, finished, drawn — every athlete's place is `1 +` the
  number of athletes with a strictly better key (Lemmas/Places.lean);
* the jump-off result: a won or finished competition has exactly one athlete in first place, a drawn one at least two
  (`C03_one_winner`, `C03_draw_is_a_tie`; Lemmas/Winner.lean).
The key is the one the code ranks by (stored best, its column, failures from the card, eliminated flag); that the
stored best is the greatest height cleared is `C03_best_*`; the comparison with places recomputed from the printed
cards alone is the referee's part in tools/checks/c03.py.
-/
namespace AthlibVerif.Props.C03
open AthlibVerif AthlibVerif.HJ AthlibVerif.Ranking

theorem keyLt_strictTotal : StrictTotal Key.lt := HJ.keyLt_strictTotal

/-- **Places follow the keys** (the algorithm of `_rankj`): after the stable sort every entry's place is
    `1 +` the number of entries with a strictly smaller (better) key. -/
theorem C03_places_from_keys (ks : List Key) :
    placesK (sortK Key.lt ks) 0 none =
      (sortK Key.lt ks).map (fun k => 1 + countLt Key.lt (sortK Key.lt ks) k) :=
  placesK_sorted Key.lt keyLt_strictTotal ks

/-- equal keys share a place; a strictly better key has a strictly smaller place number (competition ranking) -/
theorem C03_equal_keys_share (ks : List Key) (a b : Key) :
    (a = b → 1 + countLt Key.lt ks a = 1 + countLt Key.lt ks b) ∧
    (Key.lt a b = true → a ∈ ks → 1 + countLt Key.lt ks a < 1 + countLt Key.lt ks b) := by
  refine ⟨fun h => by rw [h], fun hab ha => ?_⟩
  have := countLt_lt Key.lt keyLt_strictTotal ks a b hab ha
  omega

/-- somebody is always first: the smallest place number handed out is 1 -/
theorem C03_first_place_exists (ks : List Key) (h : ks ≠ []) :
    ∃ k ∈ sortK Key.lt ks, 1 + countLt Key.lt (sortK Key.lt ks) k = 1 := by
  have hs := sortK_sorted Key.lt keyLt_strictTotal ks
  cases hl : sortK Key.lt ks with
  | nil =>
    exfalso
    cases ks with
    | nil => exact h rfl
    | cons x xs =>
      have := (sortK_mem Key.lt (x :: xs) x).2 (by simp)
      rw [hl] at this
      cases this
  | cons k rest =>
    rw [hl] at hs
    exact ⟨k, by simp, by rw [countLt_head Key.lt keyLt_strictTotal k rest hs]⟩

/-- **The model's ranking sort is the stable key sort**: `sortRanked` on the ranked bibs, seen through the
    athletes' keys, is `sortK` on the keys — so the order of `ranked_jumpers` matters only through keys. -/
theorem C03_sortRanked_is_key_sort (c : Comp) (l : List Nat) (hl : ∀ a ∈ l, (c.find a).isSome) :
    (sortRanked c l).map (keyOf c) = sortK Key.lt (l.map (keyOf c)) :=
  sortRanked_is_key_sort c l hl

/-- a clearance never lowers the best; anything else leaves best and its column alone -/
theorem C03_best_never_decreases (j j' : Jumper) (hc : Nat) (h : Int) (t : Trial)
    (ha : j.act hc h t = some j') :
    (j.bestIdx.isSome → j.best ≤ j'.best ∧ j'.bestIdx.isSome) ∧
    (t ≠ .o → j'.best = j.best ∧ j'.bestIdx = j.bestIdx) := by
  rw [act_core j j' hc h t ha]
  cases t <;> simp only [Jumper.actCore]
  · refine ⟨fun hs => ?_, fun hne => absurd rfl hne⟩
    split
    · next hcond =>
      simp only [Bool.or_eq_true, decide_eq_true_eq] at hcond
      rcases hcond with hn | hgt
      · simp [Option.isNone_iff_eq_none.1 hn] at hs
      · exact ⟨Int.le_of_lt hgt, rfl⟩
    · exact ⟨Int.le_refl _, hs⟩
  · split <;> exact ⟨fun hs => ⟨Int.le_refl _, hs⟩, fun _ => ⟨rfl, rfl⟩⟩
  · exact ⟨fun hs => ⟨Int.le_refl _, hs⟩, fun _ => by simp⟩
  · exact ⟨fun hs => ⟨Int.le_refl _, hs⟩, fun _ => by simp⟩

/-- after a clearance the best is the bar just cleared, or the old best where there was one at least as high -/
theorem C03_best_is_a_cleared_height (j j' : Jumper) (hc : Nat) (h : Int)
    (ha : j.act hc h .o = some j') :
    j'.bestIdx.isSome ∧ (j'.best = h ∨ (j'.best = j.best ∧ h ≤ j.best ∧ j.bestIdx.isSome)) := by
  rw [act_core j j' hc h .o ha]
  simp only [Jumper.actCore]
  split
  · exact ⟨rfl, Or.inl rfl⟩
  · next hcond =>
    simp only [Bool.or_eq_true, decide_eq_true_eq, not_or, Bool.not_eq_true, Option.isNone_eq_false_iff] at hcond
    exact ⟨hcond.1, Or.inr ⟨rfl, Int.not_lt.1 hcond.2, hcond.1⟩⟩

/-- the `place` property of `Jumper`: `_place`, hidden (`''`) for an athlete without a clearance -/
def shownPlace (j : Jumper) : Option Nat := if j.bestIdx.isSome then some j.place else none

theorem C03_unplaced_iff_no_clearance (j : Jumper) : (shownPlace j).isNone ↔ j.bestIdx.isNone := by
  unfold shownPlace; cases j.bestIdx <;> simp

/-- The full statement of C03's placing clause: in every reachable state that is finished, won or drawn the places
    are `1 +` the number of athletes with a strictly better key. -/
def C03_statement : Prop :=
  ∀ c : Comp, Props.C02.Reachable c → (c.phase = .finished ∨ c.phase = .won ∨ c.phase = .drawn) →
    ∀ j ∈ c.jumpers, j.place = 1 + ((c.jumpers.filter (fun k => Key.lt k.key j.key)).length)

theorem ru_reachable (c : Comp) (h : Props.C02.Reachable c) : RU c :=
  h.of_accepts (Or.inl ⟨fun j hj => (by cases hj), Or.inl rfl⟩)
    (fun c _ _ hr ih => ih.accepts (Props.C02.wf_reachable c hr))

/-- bibs are distinct and the ranked list names every athlete once — every reachable state -/
theorem C03_ranked_is_permutation (c : Comp) (h : Props.C02.Reachable c) :
    (c.jumpers.map (·.bib)).Nodup ∧ c.ranked.Perm (c.jumpers.map (·.bib)) :=
  Props.C02.wf_reachable c h

/-- **Places follow the countback keys in every decided state** (jump-off, won, finished, drawn), for every call
    sequence from the empty competition. -/
theorem C03_places_every_decided_state (c : Comp) (h : Props.C02.Reachable c)
    (hp : c.phase ≠ .scheduled ∧ c.phase ≠ .started) :
    ∀ j ∈ c.jumpers, j.place = 1 + ((c.jumpers.filter (fun k => Key.lt k.key j.key)).length) := by
  rcases ru_reachable c h with h1 | h1
  · exact absurd h1.2 (not_or.2 hp)
  · exact h1.1

theorem C03 : C03_statement := by
  intro c hr hp
  apply C03_places_every_decided_state c hr
  rcases hp with h | h | h <;> simp [h]

/-- equal keys share a place, a better key has a smaller place number — in every decided reachable state -/
theorem C03_ties_and_order (c : Comp) (h : Props.C02.Reachable c) (hp : c.phase ≠ .scheduled ∧ c.phase ≠ .started)
    (a b : Jumper) (ha : a ∈ c.jumpers) (hb : b ∈ c.jumpers) :
    (a.key = b.key → a.place = b.place) ∧ (Key.lt a.key b.key = true → a.place < b.place) := by
  have hpl := C03_places_every_decided_state c h hp
  rw [hpl a ha, hpl b hb]
  rw [← countLt_keys, ← countLt_keys]
  have := C03_equal_keys_share (c.jumpers.map Jumper.key) a.key b.key
  exact ⟨this.1, fun hlt => this.2 hlt (List.mem_map.2 ⟨a, ha, rfl⟩)⟩

theorem allBest_reachable (c : Comp) (h : Props.C02.Reachable c) : AllBest c :=
  h.of_accepts (fun j hj => by cases hj) (fun c _ _ hr ih => ih.accepts (Props.C02.wf_reachable c hr))

/-- **The stored best is the greatest height on the card, its column the first at that height** — every reachable
    state, every athlete: no clearance on the card when there is no best; otherwise the best column `i` holds a
    clearance, `best` is the height of that column, every cleared column is at most that high, and the cleared
    columns at exactly that height (a jump-off may revisit it) are not before `i`. -/
theorem C03_best_is_greatest_cleared (c : Comp) (h : Props.C02.Reachable c) (j : Jumper) (hj : j ∈ c.jumpers) :
    (j.bestIdx = none → ∀ i, clearedAt j.card i = false) ∧
    (∀ i, j.bestIdx = some i →
      i < j.card.length ∧ clearedAt j.card i = true ∧ j.best = c.heights.getD i 0 ∧
      ∀ i', clearedAt j.card i' = true → c.heights.getD i' 0 ≤ j.best ∧ (c.heights.getD i' 0 = j.best → i ≤ i')) :=
  ⟨(allBest_reachable c h j hj).noneCase, (allBest_reachable c h j hj).someCase⟩

/-- the card determines the stored best: a column that is the first among those cleared at the greatest cleared height
    IS the stored best column -/
theorem C03_best_column_unique (c : Comp) (h : Props.C02.Reachable c) (j : Jumper) (hj : j ∈ c.jumpers) (i : Nat)
    (hi : clearedAt j.card i = true)
    (hmax : ∀ i', clearedAt j.card i' = true →
      c.heights.getD i' 0 ≤ c.heights.getD i 0 ∧ (c.heights.getD i' 0 = c.heights.getD i 0 → i ≤ i')) :
    j.bestIdx = some i ∧ j.best = c.heights.getD i 0 := by
  have hb := allBest_reachable c h j hj
  cases hbi : j.bestIdx with
  | none => have := hb.noneCase hbi i; rw [this] at hi; cases hi
  | some i0 =>
    obtain ⟨_, h2, h3, h4⟩ := hb.someCase i0 hbi
    have a := h4 i hi
    have b := hmax i0 h2
    rw [h3] at a
    have e : c.heights.getD i 0 = c.heights.getD i0 0 := by omega
    have : i0 = i := by
      have h5 := a.2 e
      have h6 := b.2 e.symm
      omega
    subst this
    exact ⟨rfl, h3⟩

/-- the card is never longer than the list of heights -/
theorem C03_card_within_heights (c : Comp) (h : Props.C02.Reachable c) (j : Jumper) (hj : j ∈ c.jumpers) :
    j.card.length ≤ c.heights.length := (allBest_reachable c h j hj).len

theorem decided_reachable (c : Comp) (h : Props.C02.Reachable c) : Decided c :=
  h.of_accepts Decided_init (fun c _ _ hr ih => ih.accepts (Props.C02.wf_reachable c hr) (allBest_reachable c hr)
    (Props.C02.inv_reachable c hr).1)

/-- **A won or finished competition has exactly one athlete in first place** — the jump-off (or the countback) has
    decided it; every call sequence from the empty competition. -/
theorem C03_one_winner (c : Comp) (h : Props.C02.Reachable c) (hp : c.phase = .finished ∨ c.phase = .won) :
    ∃ w ∈ c.jumpers, w.place = 1 ∧ ∀ k ∈ c.jumpers, k.place = 1 → k = w := by
  have hu : (firsts c).length = 1 := by
    rcases hp with hp | hp
    · exact (decided_reachable c h).finished hp
    · obtain ⟨_, _, _, hu⟩ := (decided_reachable c h).won hp; exact hu
  match hf : firsts c, hu with
  | [w], _ =>
    have hw : w ∈ firsts c := by rw [hf]; simp
    obtain ⟨hwj, hwp⟩ := List.mem_filter.1 hw
    refine ⟨w, hwj, by simpa using hwp, ?_⟩
    intro k hk hkp
    have : k ∈ firsts c := List.mem_filter.2 ⟨hk, by simp [hkp]⟩
    rw [hf] at this; simpa using this

/-- while the competition is `won`, the winner is the one athlete still in, and has a clearance -/
theorem C03_winner_still_in (c : Comp) (h : Props.C02.Reachable c) (hp : c.phase = .won) :
    ∃ w, c.jumpers.filter (fun j => !j.eliminated) = [w] ∧ w.bestIdx.isSome = true ∧ w.place = 1 := by
  obtain ⟨w, hal, hb, _⟩ := (decided_reachable c h).won hp
  have hr : Ranked c := C03_places_every_decided_state c h (by rw [hp]; exact ⟨by simp, by simp⟩)
  have hf := sole_survivor_first c (Props.C02.wf_reachable c h) hr w hal hb
  have hw : w ∈ firsts c := by rw [hf]; simp
  exact ⟨w, hal, hb, by simpa using (List.mem_filter.1 hw).2⟩

/-- **A drawn competition leaves a tie for first standing**: at least two athletes are in first place -/
theorem C03_draw_is_a_tie (c : Comp) (h : Props.C02.Reachable c) (hp : c.phase = .drawn) :
    2 ≤ (c.jumpers.filter (fun j => j.place == 1)).length :=
  (decided_reachable c h).drawn hp

/-! non-vacuity: a reachable won competition with a tie for second (kernel-evaluated) -/
example : let c := Props.C02.runOps [.add 1, .add 2, .add 3, .bar 105, .trial 1 .o, .trial 2 .x, .trial 2 .o, .trial 3 .x, .trial 3 .o,
      .bar 110, .trial 1 .o, .trial 2 .x, .trial 2 .x, .trial 2 .x, .trial 3 .x, .trial 3 .x, .trial 3 .x]
    c.phase = .won ∧ c.jumpers.map (·.place) = [1, 2, 2] := by decide +kernel

end AthlibVerif.Props.C03
