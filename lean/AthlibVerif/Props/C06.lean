import AthlibVerif.Lemmas.TimesRoundTrip
/-!
# C06 — Times are never rounded down: decimal rounding, formatting and parsing agree

Theorems about the string-level models of `round_up_str_num`, `format_seconds_as_time` and `parse_hms`
(`Model/Times.lean`, transcribed from `athlib/utils.py` *with the three proposed fixes applied*: the residue is
rendered in fixed notation, an empty integer part becomes `0` in every branch, `OverflowError` is caught).
Digit strings have ANY length, precisions are arbitrary naturals; nothing is a float.

Vocabulary.  `val ds` is the number a digit string spells (`val [] = 0`).  `IsCeil N a b` says
`a ≤ N·b < a + b`, i.e. `N = ⌈a / b⌉` (`IsCeil.unique`; `isCeil_iff_ceilDiv : IsCeil N a b ↔ N = (a + b − 1) / b`).  A decimal text `i.f` cut to `m` decimals is the
fraction `(val i · 10^n + val (f.take m)) / 10^n`, `n = (f.take m).length`.  `Renders r p N` says `r` is the text of
`N / 10^p` with a non-empty integer part and exactly `p` decimals (no decimal point at `p = 0`).
From `Lemmas/TimesFormat.lean`: `FixedResidue t` says `t` is a fixed-notation text of the residue `seconds - int(seconds)`
(`'0'`, `'0.ddd…'`, `'1.000…'`; `'%.9f' % frac` in the code) — an input of the model, supplied by the harness;
`truncDec t m` is that cut fraction of `t` as (numerator, `n`); `fracPart fd p` is `'.' + fd`, and nothing at `p = 0`.

What is NOT covered here (see the correspondence in `tools/checks/c06.py`): that the residue text the code hands
to `round_up_str_num` is a correct rendering of `seconds - int(seconds)` (checked per request), the float
arithmetic inside `parse_hms` (results compared within 2^-50), and `int()`/`float()` syntax outside the modelled
grammar — underscores, exponents, `inf`/`nan`, Unicode digits, surrounding white space (totality stream only).
-/
namespace AthlibVerif.Props.C06
open AthlibVerif.Digits AthlibVerif.Times

def Renders (r : List Char) (p N : Nat) : Prop :=
  ∃ i' f', r = join i' f' p ∧ i' ≠ [] ∧ allDig i' = true ∧ allDig f' = true ∧ f'.length = p ∧
    val i' * 10 ^ p + val f' = N

/-- **round-up**: for digit strings `i`, `f` of any length (empty and leading zeros included), every precision
`p` and every noise cut-off `m` (`maxDP`, 5 in the code): the result spells, with exactly `p` decimals, the
ceiling at `p` decimals of the input cut to `m` decimals. -/
theorem C06_roundup (i f : List Char) (p m : Nat) (hi : allDig i = true) (hf : allDig f = true) :
    ∃ N, Renders (roundUpStr (i ++ '.' :: f) p m) p N ∧
      IsCeil N ((val i * 10 ^ (f.take m).length + val (f.take m)) * 10 ^ p) (10 ^ (f.take m).length) := by
  obtain ⟨i', f', he, cs⟩ := roundUpCore_spec i (f.take m) p hi (allDig_take _ _ hf)
  refine ⟨_, ⟨i', f', ?_, cs.ne, cs.di, cs.df, cs.len, rfl⟩, cs.ceil⟩
  simp only [roundUpStr, splitDot_dot i f (dot_not_mem i hi)]
  exact he

/-- the same without a decimal point in the input: the value is kept and `p` zeros are appended -/
theorem C06_roundup_nodot (i : List Char) (p m : Nat) (hi : allDig i = true) :
    Renders (roundUpStr i p m) p (val i * 10 ^ p) := by
  obtain ⟨i', f', he, cs⟩ := roundUpCore_spec i (zeros p) p hi (allDig_zeros p)
  refine ⟨i', f', ?_, cs.ne, cs.di, cs.df, cs.len, ?_⟩
  · simp only [roundUpStr, splitDot_nodot i (dot_not_mem i hi)]; exact he
  · have h := cs.ceil
    rw [val_zeros, zeros_length, Nat.add_zero] at h
    exact h.exact (Nat.pow_pos (by omega))

/-- **format, well-formedness and value**: for a fixed-notation residue text `t` (value in `[0, 1]`) and
`p ≤ 3` the output is `fmtHMS h m s` (`"%d:%02d:%02d"`, `"%d:%02d"` or `"%d"`) followed by nothing (`p = 0`) or a
point and exactly `p` digits, with minutes and seconds below 60 (two digits each when not leading); and the number
printed is the ceiling at `p` decimals of `whole + residue cut to 5 decimals` — so carries propagate
(`59.9995 → 1:00.000`, `3599.99 → 1:00:00`). -/
theorem C06_format_wellformed (whole p : Nat) (t : List Char) (hp : p ≤ 3) (ht : FixedResidue t) :
    ∃ h m s fd, formatSeconds whole t p = .ok (fmtHMS h m s ++ fracPart fd p) ∧ m < 60 ∧ s < 60 ∧
      (padLeft 2 (render m)).length = 2 ∧ (padLeft 2 (render s)).length = 2 ∧
      allDig fd = true ∧ fd.length = p ∧
      IsCeil ((h * 3600 + m * 60 + s) * 10 ^ p + val fd)
        ((whole * 10 ^ (truncDec t 5).2 + (truncDec t 5).1) * 10 ^ p) (10 ^ (truncDec t 5).2) := by
  obtain ⟨h, m, s, fd, h1, h2, h3, h4, h5, h6⟩ := formatSeconds_spec whole p t hp ht
  exact ⟨h, m, s, fd, h1, h2, h3, pad2_length m (by omega), pad2_length s (by omega), h4, h5, h6⟩

/-- **round trip**: parsing the formatted text gives a number `K / 10^p` (an `int` at `p = 0`) with
`trunc₅(x) ≤ K / 10^p < trunc₅(x) + 10^-p`, where `x = whole + residue`: never below the duration (noise beyond the
fifth decimal aside), less than one unit of the last printed digit above it. -/
theorem C06_roundtrip (whole p : Nat) (t : List Char) (hp : p ≤ 3) (ht : FixedResidue t) :
    ∃ out, ∃ K : Nat, formatSeconds whole t p = .ok out ∧ parseHms out = .ok ⟨decide (p = 0), (K : Int), p⟩ ∧
      IsCeil K ((whole * 10 ^ (truncDec t 5).2 + (truncDec t 5).1) * 10 ^ p) (10 ^ (truncDec t 5).2) := by
  obtain ⟨h, m, s, fd, h1, _, _, h4, h5, h6⟩ := formatSeconds_spec whole p t hp ht
  exact ⟨_, _, h1, parseHms_fmtHMS h m s p fd h4 h5, h6⟩

/-- **parsing is exact, either separator**: for fields that contain no separator, `parse_hms` of the fields joined
by `:` or by `;` is the loop `sec = sec·60 + field` over the fields (`ValueError` iff the loop fails); each step of
the loop is exact on any common decimal scale, and the result is an `int` iff every field was; a field of digits is that
`int`, a field `digits.digits` that decimal. -/
theorem C06_parse_exact :
    (∀ (sep : Char) (fs : List (List Char)), (sep = ':' ∨ sep = ';') → fs ≠ [] → (∀ f ∈ fs, ':' ∉ f ∧ ';' ∉ f) →
        parseHms (joinWith sep fs) = toExcept (parseFields .zero fs)) ∧
    (∀ (acc x : Num) (f : List Char) (fs : List (List Char)), parseField f = some x →
        parseFields acc (f :: fs) = parseFields (acc.add60 x) fs) ∧
    (∀ (acc x : Num) (E : Nat), acc.exp ≤ E → x.exp ≤ E →
        (acc.add60 x).isInt = (acc.isInt && x.isInt) ∧ (acc.add60 x).exp = max acc.exp x.exp ∧
        (acc.add60 x).num * (10 : Int) ^ (E - (acc.add60 x).exp) =
          acc.num * 60 * (10 : Int) ^ (E - acc.exp) + x.num * (10 : Int) ^ (E - x.exp)) ∧
    (∀ d : List Char, d ≠ [] → allDig d = true → parseField d = some ⟨true, (val d : Int), 0⟩) ∧
    (∀ d fd : List Char, d ≠ [] → allDig d = true → allDig fd = true →
        parseField (d ++ '.' :: fd) = some ⟨false, (val (d ++ fd) : Int), fd.length⟩) :=
  ⟨fun sep fs hs hne hno => parseHms_joinWith sep hs fs hne hno,
   fun acc x f fs h => parseFields_cons acc x f fs h,
   fun acc x E h1 h2 => ⟨rfl, (add60_exact acc x E h1 h2).1, (add60_exact acc x E h1 h2).2⟩,
   parseField_digits, parseField_decimal⟩

/-- the familiar instances: `h:m:s`, `m:s` and `s` of digit strings are `3600h + 60m + s`, integers stay integers,
with `:` and with `;` alike -/
theorem C06_parse_hms_ints (sep : Char) (hs : sep = ':' ∨ sep = ';') (a b c : List Char)
    (ha : a ≠ [] ∧ allDig a = true) (hb : b ≠ [] ∧ allDig b = true) (hc : c ≠ [] ∧ allDig c = true) :
    parseHms (a ++ sep :: (b ++ sep :: c)) = .ok ⟨true, ((val a * 3600 + val b * 60 + val c : Nat) : Int), 0⟩ ∧
    parseHms (b ++ sep :: c) = .ok ⟨true, ((val b * 60 + val c : Nat) : Int), 0⟩ ∧
    parseHms c = .ok ⟨true, (val c : Int), 0⟩ := by
  obtain ⟨hc', H⟩ := parseHms_digits sep hs c [] 0 hc rfl rfl   -- `c`
  obtain ⟨hbc, H⟩ := H b hb                                       -- `b:c`
  have habc := H a ha                                             -- `a:b:c`
  simpa [fracPart] using And.intro habc (And.intro hbc hc')

/-- **totality of the model**: `parse_hms` answers with a number or with `ValueError`, nothing else; for fields
without separators it is `ValueError` exactly when some field is outside the grammar; and an accepted field
consists of ASCII digits, `.`, `+`, `-` only. -/
theorem C06_parse_total :
    (∀ t : List Char, parseHms t = .error () ∨ ∃ n, parseHms t = .ok n) ∧
    (∀ (sep : Char) (fs : List (List Char)), (sep = ':' ∨ sep = ';') → fs ≠ [] → (∀ f ∈ fs, ':' ∉ f ∧ ';' ∉ f) →
        (parseHms (joinWith sep fs) = .error () ↔ ∃ f ∈ fs, parseField f = none)) ∧
    (∀ (s : List Char) (x : Num), parseField s = some x → ∀ c ∈ s, isDig c = true ∨ c = '.' ∨ c = '-' ∨ c = '+') := by
  refine ⟨?_, ?_, parseField_chars⟩
  · intro t
    cases h : parseHms t with
    | error e => exact Or.inl rfl
    | ok n => exact Or.inr ⟨n, rfl⟩
  · intro sep fs hs hne hno
    rw [parseHms_joinWith sep hs fs hne hno, ← parseFields_eq_none_iff .zero fs]
    cases parseFields Num.zero fs <;> simp [toExcept]

/-- **the pinned defects, on the model**: handed the exponent-notation text that `repr` produces for a tiny
residue, the same algorithm prints a whole second too much / not a duration at all (the repaired code renders the
residue with `'%.9f'`, which is always `FixedResidue`); and the pinned `round_up_str_num` returns the empty string
for `'.0'` at precision 0 where the repaired one returns `'0'`. -/
theorem C06_pinned_exponent_witness :
    formatSeconds 65 "1.4210854715202004e-14".toList 2 = .ok "1:06.43".toList ∧
    formatSeconds 0 "1e-05".toList 0 = .ok "1e-05".toList ∧
    formatSeconds 65 "0.000000000".toList 2 = .ok "1:05.00".toList ∧
    roundUpStrPinned ".0".toList 0 5 = [] ∧ roundUpStr ".0".toList 0 5 = ['0'] := by
  decide +kernel

/-! ### non-vacuity: the hypotheses are satisfiable and the carries really happen -/

example : FixedResidue "0".toList := .zero
example : FixedResidue "0.999500000".toList := .frac "999500000".toList (by decide +kernel)
example : FixedResidue "1.000000000".toList := .one 9
example : formatSeconds 59 "0.999500000".toList 3 = .ok "1:00.000".toList := by decide +kernel
example : formatSeconds 3599 "0.990000000".toList 0 = .ok "1:00:00".toList := by decide +kernel
example : formatSeconds 3599 "0.990000000".toList 2 = .ok "59:59.99".toList := by decide +kernel
example : formatSeconds 359999 "1.000000000".toList 1 = .ok "100:00:00.0".toList := by decide +kernel
example : roundUpStr "".toList 2 5 = "0.00".toList := by decide +kernel
example : roundUpStr "0099.9996".toList 3 5 = "100.000".toList := by decide +kernel
example : roundUpStr ".123450001".toList 4 5 = "0.1235".toList := by decide +kernel
example : roundUpStr ".123400001".toList 4 5 = "0.1234".toList := by decide +kernel        -- beyond 5 decimals: noise
example : (parseHms "1:01:10.1".toList).toOption = some ⟨false, 36701, 1⟩ := by decide +kernel
example : (parseHms "1;10".toList).toOption = some ⟨true, 70, 0⟩ := by decide +kernel
example : (parseHms "1:2;3".toList).toOption = none := by decide +kernel
example : (parseHms "1:".toList).toOption = none := by decide +kernel

end AthlibVerif.Props.C06
