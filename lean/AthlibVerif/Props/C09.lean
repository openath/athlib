import AthlibVerif.Props.C05
/-!
# C09 — Performance-needed is the exact inverse of the combined-events score

`Athlon.needed` is the inverse on the 0.01 grid: for a field event the least mark whose points reach
the target, for a track event the greatest (slowest) one.  Proved for **every** positive-exponent row
and **every** target `s ≥ 1` (not only the tabulated rows and the targets −10…1500 the check walks): the needed mark scores at least `s`
and the next-worse grid mark scores strictly less.  Core Lean only.
-/
namespace AthlibVerif.Props.C09
open AthlibVerif AthlibVerif.Athlon

theorem iroot_zero (b : Nat) (hb : 0 < b) : iroot b 0 = 0 := by
  have := le_iroot_iff b 0 1 hb
  rw [Nat.one_pow] at this
  omega

theorem points_of_base_zero (r : ScoreRow) (kind : EvKind) (k : Nat) (ha : 0 < r.xa) (hb : 0 < r.xb)
    (h : base r kind k = 0) : points r kind k = 0 := by
  unfold points floorPow
  rw [h, Nat.zero_pow ha, Nat.mul_zero, Nat.zero_div]
  exact iroot_zero _ hb

/-- bisection invariant, track events (points decrease with `k`) -/
theorem neededTrack_spec (r : ScoreRow) (s lo hi : Nat)
    (hlo : s ≤ points r .track lo) (hhi : points r .track hi < s) (hlt : lo < hi) :
    s ≤ points r .track (neededTrack r s lo hi) ∧ points r .track (neededTrack r s lo hi + 1) < s := by
  fun_induction neededTrack r s lo hi with
  | case1 lo hi h mid hm ih => exact ih hm hhi (by omega)
  | case2 lo hi h mid hm ih => exact ih hlo (by omega) (by omega)
  | case3 lo hi h =>
    have : hi = lo + 1 := by omega
    subst this; exact ⟨hlo, hhi⟩

/-- bisection invariant, field events (points increase with `k`) -/
theorem neededField_spec (r : ScoreRow) (kind : EvKind) (s lo hi : Nat)
    (hlo : points r kind lo < s) (hhi : s ≤ points r kind hi) (hlt : lo < hi) :
    s ≤ points r kind (neededField r kind s lo hi) ∧ 1 ≤ neededField r kind s lo hi ∧
      points r kind (neededField r kind s lo hi - 1) < s := by
  fun_induction neededField r kind s lo hi with
  | case1 lo hi h mid hm ih => exact ih hlo hm (by omega)
  | case2 lo hi h mid hm ih => exact ih (by omega) hhi (by omega)
  | case3 lo hi h =>
    have : hi = lo + 1 := by omega
    subst this
    exact ⟨hhi, by omega, by simpa using hlo⟩

theorem base_zeroK_pred (r : ScoreRow) (kind : EvKind) (hk : kind ≠ .track) : base r kind (zeroK r kind - 1) = 0 := by
  cases kind with
  | track => exact absurd rfl hk
  | jump => simp only [base, zeroK]; omega
  | throw => simp only [base, zeroK]; omega

theorem base_zeroK_track (r : ScoreRow) : base r .track (zeroK r .track) = 0 := by
  simp [base, zeroK]

theorem needed_field_spec (row : ScoreRow) (kind : EvKind) (s hi : Nat) (hk : kind ≠ .track) (hs : 1 ≤ s)
    (ha : 0 < row.xa) (hb : 0 < row.xb) (h0 : s ≤ points row kind hi) :
    s ≤ points row kind (neededField row kind s (zeroK row kind - 1) hi) ∧
    1 ≤ neededField row kind s (zeroK row kind - 1) hi ∧
    points row kind (neededField row kind s (zeroK row kind - 1) hi - 1) < s := by
  have hlo : points row kind (zeroK row kind - 1) < s := by
    rw [points_of_base_zero row kind _ ha hb (base_zeroK_pred row kind hk)]
    omega
  refine neededField_spec row kind _ _ _ hlo h0 (Nat.lt_of_not_le fun hle => ?_)
  -- an upper end at or below the lower one would score no more than it
  have := C05.powerLaw_mono_field row kind _ _ hk hb hle
  omega

/-- **Galois inverse.**  For every row with positive exponent, every kind and every target `s ≥ 1`:
    if the model reports mark `k` as needed, then `k` scores at least `s` and the next-worse grid mark
    (`k+1` hundredths slower for a time, `k−1` shorter for a distance) scores strictly less. -/
theorem C09_galois (tbl : List ScoreRow) (g e : String) (s : Int) (k : Nat) (row : ScoreRow)
    (hs : 1 ≤ s) (hrow : lookup tbl g e = some row) (ha : 0 < row.xa) (hb : 0 < row.xb)
    (h : needed tbl g e s = .mark k) :
    s.toNat ≤ points row (kindOf e) k ∧
    (match kindOf e with
      | .track => points row .track (k + 1) < s.toNat
      | kind => 1 ≤ k ∧ points row kind (k - 1) < s.toNat) := by
  have hs' : 1 ≤ s.toNat := by omega
  unfold needed at h
  rw [hrow] at h
  simp only at h
  rw [if_neg (by omega)] at h
  cases hkind : kindOf e with
  | track =>
    rw [hkind] at h
    simp only at h
    split at h
    · next h0 =>
      cases h
      have hz : 0 < zeroK row .track := by
        apply Nat.pos_of_ne_zero
        intro hz0
        have := points_of_base_zero row .track 0 ha hb (by simp only [base, zeroK] at *; omega)
        omega
      exact neededTrack_spec row _ 0 _ h0
        (by rw [points_of_base_zero row .track _ ha hb (base_zeroK_track row)]; omega) hz
    · cases h
  | jump | throw =>
    rw [hkind] at h
    simp only at h
    split at h
    · next h0 =>
      cases h
      exact needed_field_spec row _ _ _ (by decide) hs' ha hb h0
    · cases h

/-- negative targets behave as zero -/
theorem C09_negative_as_zero (tbl : List ScoreRow) (g e : String) (s : Int) (hs : s ≤ 0) :
    needed tbl g e s = needed tbl g e 0 := by
  unfold needed
  have : s.toNat = 0 := by omega
  simp [this]

/-- at target 0 the answer is the zero-point mark `zeroK`, over any table; what that mark scores is not part of
    the statement -/
theorem C09_zero (tbl : List ScoreRow) (g e : String) (row : ScoreRow) (hrow : lookup tbl g e = some row) :
    needed tbl g e 0 = .mark (zeroK row (kindOf e)) := by
  unfold needed; rw [hrow]; simp

/-- an unknown gender/event pair gives no answer rather than an error -/
theorem C09_unknown_none (tbl : List ScoreRow) (g e : String) (s : Int) (h : lookup tbl g e = none) :
    needed tbl g e s = .none := by
  unfold needed; rw [h]

/-- the points of `C09_galois` are what `score` returns for a tabulated pair (no age, no ESAA option):
    for the regenerated table the veterans' hurdles re-mapping never touches a tabulated pair -/
theorem remap_id_on_table : Gen.scoringTable.all (fun r => remap r.gender r.event == r.event) = true := by
  decide +kernel

theorem adjust_unit (kind : EvKind) (k sc : Nat) (h : 0 < sc) : adjust kind k sc sc = k := by
  cases kind <;> simp only [adjust, floorDiv, ceilDiv]
  · exact Nat.mul_div_cancel k h
  · exact Nat.mul_div_cancel k h
  · apply Nat.le_antisymm
    · apply (Nat.div_le_iff_le_mul_add_pred h).2
      rw [Nat.mul_comm]; omega
    · apply (Nat.le_div_iff_mul_le h).2; omega

theorem score_eq_points (tbl : List ScoreRow) (er : ScoreRow) (d : AgeData) (g e : String) (k : Nat) (row : ScoreRow)
    (hsc : 0 < d.scale) (hre : remap g e = e) (hrow : lookup tbl g e = some row) :
    score tbl er d g e k none false = .points (points row (kindOf e) k) := by
  unfold score
  simp only [hre, hrow, Bool.and_false, adjust_unit _ _ _ hsc]
  rfl

/-! non-vacuity on the regenerated table (kernel-evaluated): 1042 points in the men's 100 m need 10.22 s -/
example : needed Gen.scoringTable "M" "100" 1042 = .mark 1022 := by decide +kernel
example : needed Gen.scoringTable "M" "SP" 500 = .mark 1024 := by decide +kernel

end AthlibVerif.Props.C09
