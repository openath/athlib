import AthlibVerif.Model.Codes
import AthlibVerif.Oblig.C07.Tie
import AthlibVerif.Oblig.C10.Groups
import AthlibVerif.Lemmas.DistRelay
import AthlibVerif.Lemmas.RelayLeg
import AthlibVerif.Lemmas.Sym
/-!
# C10 — Every valid event code can be sorted, measured and classified without error

Over `Model/Codes.lean` (transcription of `discipline_sort_key`, `text_discipline_sort_key`,
`sort_by_discipline`, `get_distance`, …, on the patterns regenerated from `athlib/codes.py`).
Proved for all strings: every non-empty string gets a key whose category is that of the first family that matches, tried
in the order of the source (throws, hurdles, jumps, relays, track); the categories number the programme order (track 1 <
hurdles/steeplechase 2 < jumps 3 < throws 4 < relays 5 < other 6); the sort key, its text form, the sorter and the
duration reader never fail; zero-padded five-digit rendering of numbers below 100 000 keeps their order (on digit lists);
the shape of the text key; relay distance = legs × leg distance; the sorter keeps the number of entries.  For every accepted code the distance estimator returns (`C10_total`).  Kernel-decided on the
regenerated data: the conventional field order HJ PV LJ TJ SP DT HT JT and totality of the field-order look-up on
every generic field code.
-/
namespace AthlibVerif.Props.C10
open AthlibVerif AthlibVerif.Codes

/-- lexicographic `<` on digit lists -/
def ltNats : List Nat → List Nat → Bool
  | _, [] => false
  | [], _ :: _ => true
  | a :: as, b :: bs => if a < b then true else if b < a then false else ltNats as bs

/-- value of a decimal digit list, most significant digit first, continuing from the value `p` of a prefix -/
def decVal (p : Nat) (l : List Nat) : Nat := l.foldl (fun acc d => 10 * acc + d) p

theorem decVal_lt {xs ys : List Nat} (hl : xs.length = ys.length) (hx : ∀ d ∈ xs, d < 10) {p q : Nat} (h : p < q) :
    decVal p xs < decVal q ys := by
  induction xs generalizing ys p q with
  | nil =>
    cases ys with
    | nil => exact h
    | cons _ _ => cases hl
  | cons x xs ih =>
    cases ys with
    | nil => cases hl
    | cons y ys =>
      have hx0 := hx x List.mem_cons_self
      exact ih (Nat.succ.inj hl) (fun d hd => hx d (List.mem_cons_of_mem _ hd)) (p := 10 * p + x) (q := 10 * q + y) (by omega)

/-- At the first position where the digits differ `decVal_lt` decides; before it both sides continue from the same prefix
    (hence the start value `p`). -/
theorem ltNats_iff_decVal {xs ys : List Nat} (hl : xs.length = ys.length) (hx : ∀ d ∈ xs, d < 10) (hy : ∀ d ∈ ys, d < 10)
    (p : Nat) : (ltNats xs ys = true ↔ decVal p xs < decVal p ys) ∧ (xs = ys ↔ decVal p xs = decVal p ys) := by
  induction xs generalizing ys p with
  | nil =>
    cases ys with
    | nil => simp [ltNats]
    | cons _ _ => cases hl
  | cons x xs ih =>
    cases ys with
    | nil => cases hl
    | cons y ys =>
      have hl' := Nat.succ.inj hl
      have hx' : ∀ d ∈ xs, d < 10 := fun d hd => hx d (List.mem_cons_of_mem _ hd)
      have hy' : ∀ d ∈ ys, d < 10 := fun d hd => hy d (List.mem_cons_of_mem _ hd)
      rcases Nat.lt_trichotomy x y with hxy | rfl | hxy
      · have hv : decVal p (x :: xs) < decVal p (y :: ys) :=
          decVal_lt hl' hx' (p := 10 * p + x) (q := 10 * p + y) (by omega)
        refine ⟨⟨fun _ => hv, fun _ => by simp [ltNats, hxy]⟩, fun h => ?_, fun h => ?_⟩
        · cases h
          omega
        · omega
      · simpa [ltNats, decVal] using ih hl' hx' hy' (10 * p + x)
      · have hv : decVal p (y :: ys) < decVal p (x :: xs) :=
          decVal_lt hl'.symm hy' (p := 10 * p + y) (q := 10 * p + x) (by omega)
        refine ⟨⟨fun h => ?_, fun h => ?_⟩, fun h => ?_, fun h => ?_⟩
        · simp [ltNats, hxy, Nat.lt_asymm hxy] at h
        · omega
        · cases h
          omega
        · omega

theorem decVal_pad5Digits (n : Nat) (h : n < 100000) : decVal 0 (pad5Digits n) = n := by
  simp only [decVal, pad5Digits, List.foldl_cons, List.foldl_nil]
  omega

/-- **Zero-padded five-digit rendering is an order isomorphism below 100 000** -/
theorem C10_pad5_iso (a b : Nat) (ha : a < 100000) (hb : b < 100000) :
    (ltNats (pad5Digits a) (pad5Digits b) = true ↔ a < b) ∧ (pad5Digits a = pad5Digits b ↔ a = b) := by
  have hd : ∀ n, ∀ d ∈ pad5Digits n, d < 10 := by
    intro n d hd
    simp only [pad5Digits, List.mem_cons, List.mem_nil_iff, or_false] at hd
    omega
  have h := ltNats_iff_decVal (xs := pad5Digits a) (ys := pad5Digits b) rfl (hd a) (hd b) 0
  rwa [decVal_pad5Digits a ha, decVal_pad5Digits b hb] at h

/-- the text key is `<category>_<five-digit order>_<discipline>` -/
theorem C10_text_key_shape (d t : Str) (h : textKey d = .ok t) :
    ∃ k, sortKey d = .ok k ∧ t = natStr k.1 ++ ['_'] ++ pad5 k.2 ++ ['_'] ++ (if d.isEmpty then ['?'] else d) := by
  unfold textKey at h
  simp only [Except.map] at h
  split at h
  · cases h
  · next k hk => injection h with h; exact ⟨k, hk, h.symm⟩

/-- a text key exists exactly when a tuple key does -/
theorem C10_text_total_iff (d : Str) : (∃ t, textKey d = .ok t) ↔ (∃ k, sortKey d = .ok k) := by
  unfold textKey
  simp only [Except.map]
  split
  · next e he => simp [he]
  · next k hk => simp [hk]

/-- **Relay distance = legs × leg distance** (numeric or otherwise measurable leg) -/
theorem C10_relay_distance (fuel : Nat) (d : Str) (rc : GRE.Caps) (legs leg : Nat)
    (htok : firstToken d = .ok d)
    (h1 : strEq d "XC" = false) (h2 : strEq d "MAR" = false) (h3 : strEq d "HM" = false)
    (h4 : strIn d ["MILE", "CHUNDER-MILE"] = false)
    (hm : pyMatch "PAT_RELAYS" d = some rc)
    (hg : strIn (upper ((group d rc 2).getD [])) ["RELAY", "DMR", "SDMR"] = false)
    (hs1 : strEq (upper ((group d rc 2).getD [])) "SMR" = false)
    (hs2 : strEq (upper ((group d rc 2).getD [])) "SSMR" = false)
    (hs3 : strEq (upper ((group d rc 2).getD [])) "SWR" = false)
    (hlegs : pyInt ((group d rc 1).getD []) = .ok legs)
    (hleg : getDistance fuel (upper ((group d rc 2).getD [])) = .ok (some leg)) :
    getDistance (fuel + 1) d = .ok (some (legs * leg)) := by
  rw [getDistance_succ]
  simp only [htok, h1, h2, h3, h4, hm, hleg, relayDistance, hg, hs1, hs2, hs3, hlegs, Bool.false_eq_true, if_false]

theorem mapM_ok_length {α β ε : Type} (f : α → Except ε β) (l : List α) (r : List β) (h : l.mapM f = .ok r) :
    r.length = l.length := by
  induction l generalizing r with
  | nil =>
    simp only [List.mapM_nil] at h
    cases h
    rfl
  | cons a as ih =>
    rw [List.mapM_cons] at h
    cases ha : f a with
    | error e =>
      rw [ha] at h
      cases h
    | ok b =>
      cases has : as.mapM f with
      | error e =>
        rw [ha, has] at h
        cases h
      | ok bs =>
        rw [ha, has] at h
        cases h
        simp [ih bs has]

theorem mapM_ok_of_forall {α β ε : Type} (f : α → Except ε β) (l : List α) (h : ∀ a, ∃ b, f a = .ok b) :
    ∃ r, l.mapM f = .ok r := by
  induction l with
  | nil => exact ⟨[], rfl⟩
  | cons a as ih =>
    obtain ⟨b, hb⟩ := h a
    obtain ⟨bs, hbs⟩ := ih
    exact ⟨b :: bs, by rw [List.mapM_cons, hb, hbs]; rfl⟩

theorem insTagged_length (x : Tagged) (l : List Tagged) : (insTagged x l).length = l.length + 1 := by
  induction l with
  | nil => rfl
  | cons a rest ih => simp only [insTagged]; split <;> simp [ih]

/-- the sorter returns as many entries as it was given -/
theorem C10_sort_length (l r : List Str) (h : sortBy l = .ok r) : r.length = l.length := by
  unfold sortBy at h
  split at h
  · cases h
  · next tagged ht =>
    injection h with h
    subst h
    rw [List.length_map, ← mapM_ok_length _ l tagged ht]
    suffices ∀ acc : List Tagged, (tagged.foldl (fun acc x => insTagged x acc) acc).length = acc.length + tagged.length by
      simpa using this []
    clear ht
    induction tagged with
    | nil => intro acc; rfl
    | cons x xs ih =>
      intro acc
      rw [List.foldl_cons, ih, insTagged_length, List.length_cons]
      omega

/-- the field-order look-up succeeds on every generic field code of `athlib.codes.FIELD_EVENTS`
    (throws with the four-letter look-up, jumps with the three-letter one) -/
theorem C10_fieldOrder_total_generic :
    (Gen.THROWS.all (fun c => match fieldOrder true c.toList with | .ok _ => true | .error _ => false) &&
     Gen.JUMPS.all (fun c => match fieldOrder false c.toList with | .ok _ => true | .error _ => false)) = true := by
  decide +kernel

def keyIs (c : String) (k : Nat × Nat) : Bool := match sortKey c.toList with | .ok k' => k' == k | .error _ => false

/-- **Conventional field order** HJ PV LJ TJ SP DT HT JT (jumps before throws), on the regenerated data -/
theorem C10_field_order :
    (keyIs "HJ" (3, 0) && keyIs "PV" (3, 2) && keyIs "LJ" (3, 3) && keyIs "TJ" (3, 5) &&
     keyIs "SP" (4, 7) && keyIs "DT" (4, 8) && keyIs "HT" (4, 9) && keyIs "JT" (4, 10)) = true := by
  decide +kernel

/-! The family tests are membership in the languages of C04, and the `int()` calls cannot fail.  `Lemmas/MatchSound.lean`:
the backtracking matcher accepts exactly the language of its pattern and every captured span is matched by the body of
its group.  `Oblig/C07/Tie.lean`, `Oblig/C10/Groups.lean`: what is decided on the regenerated patterns. -/

theorem pyMatch_eq_language {name : String} {p : RE} (h : (name, p) ∈ Gen.patternTable) (d : Str) :
    (pyMatch name d).isSome = p.matchesChars d :=
  Bool.eq_iff_iff.2 ((pyMatch_iff name p (Oblig.C07.tied h) d).trans (matchesChars_iff p d).symm)

theorem mem_THROWS : ("PAT_THROWS", Gen.PAT_THROWS) ∈ Gen.patternTable := by decide +kernel
theorem mem_HURDLES : ("PAT_HURDLES", Gen.PAT_HURDLES) ∈ Gen.patternTable := by decide +kernel
theorem mem_JUMPS : ("PAT_JUMPS", Gen.PAT_JUMPS) ∈ Gen.patternTable := by decide +kernel
theorem mem_RELAYS : ("PAT_RELAYS", Gen.PAT_RELAYS) ∈ Gen.patternTable := by decide +kernel
theorem mem_TRACK : ("PAT_TRACK", Gen.PAT_TRACK) ∈ Gen.patternTable := by decide +kernel

/-- **Hurdles never fail**: for every string the hurdles pattern accepts (and the throws pattern does not), the key
    is `(2, metres)` — the metres group always takes part and `int()` accepts whatever it can capture. -/
theorem C10_hurdles_total (d : Str) (hc : GRE.Caps) (hd : d ≠ []) (ht : (pyMatch "PAT_THROWS" d).isSome = false)
    (hhc : pyMatch "PAT_HURDLES" d = some hc) : ∃ n, sortKey d = .ok (2, n) := by
  have hO := Oblig.C10.hurdles_metres
  simp only [Bool.and_eq_true] at hO
  obtain ⟨t, hg⟩ := group_mandatory_one "PAT_HURDLES" 1 hO.2 d hc hhc
  obtain ⟨n, hn⟩ := group_int Oblig.C10.digit_table "PAT_HURDLES" 1 hO.1 d hc hhc t hg
  refine ⟨n, ?_⟩
  unfold sortKey
  simp only [List.isEmpty_eq_false_iff.2 hd, ht, hhc, hg, hn, Bool.false_eq_true, if_false, Except.map]

/-- **`get_duration_event_time` never raises, on any string whatsoever.** -/
theorem C10_duration_total (s : Str) : ∃ r, durationTime s = .ok r := by
  have hO := Oblig.C10.duration_groups
  unfold Oblig.C10.durationGroupsOK at hO
  unfold durationTime
  simp only
  generalize (strip s).filter (· != ' ') = dev
  cases hm : pyMatch "PAT_RACES_FOR_DISTANCE" dev with
  | none => exact ⟨none, rfl⟩
  | some caps =>
    simp only
    cases hH : groupId "PAT_RACES_FOR_DISTANCE" "dhours" with
    | none => rw [hH] at hO; simp at hO
    | some idh =>
      cases hM : groupId "PAT_RACES_FOR_DISTANCE" "dmins" with
      | none => rw [hH, hM] at hO; simp at hO
      | some idm =>
        rw [hH, hM] at hO
        simp only [Bool.and_eq_true] at hO
        obtain ⟨⟨dH, dM⟩, hmand⟩ := hO
        simp only [Option.bind_some]
        cases hgh : group dev caps idh with
        | some t =>
          simp only
          by_cases hte : t.isEmpty = true
          · exact ⟨none, by simp [hte]⟩
          · obtain ⟨n, hn⟩ := group_int Oblig.C10.digit_table _ idh dH dev caps hm t hgh
            exact ⟨some (n * 3600), by simp [hte, hn, Except.map]⟩
        | none =>
          simp only
          cases hgm : group dev caps idm with
          | some t =>
            obtain ⟨n, hn⟩ := group_int Oblig.C10.digit_table _ idm dM dev caps hm t hgm
            exact ⟨some (n * 60), by simp [hn, Except.map]⟩
          | none =>
            obtain ⟨id, hid, t, hg⟩ := group_mandatory _ [idh, idm] hmand dev caps hm
            simp only [List.mem_cons, List.mem_nil_iff, or_false] at hid
            rcases hid with rfl | rfl
            · rw [hgh] at hg; cases hg
            · rw [hgm] at hg; cases hg

/-- **Throws never fail**: every string in the language of the throws pattern gets the key `(4, order)`. -/
theorem C10_throws_total (d : Str) (hd : d ≠ []) (ht : (pyMatch "PAT_THROWS" d).isSome = true) :
    ∃ n, sortKey d = .ok (4, n) := by
  have hM : Matches Gen.PAT_THROWS d := (pyMatch_iff _ _ (Oblig.C07.tied mem_THROWS) d).1 ht
  obtain ⟨n, hn⟩ := fieldOrder_of_prefixK true _ Oblig.C10.field_spellings Oblig.C10.throws_prefix d hM
  exact ⟨n, by unfold sortKey; simp only [List.isEmpty_eq_false_iff.2 hd, ht, hn, Bool.false_eq_true, if_false, if_true, Except.map]⟩

/-- **Jumps never fail.** -/
theorem C10_jumps_total (d : Str) (hd : d ≠ []) (ht : (pyMatch "PAT_THROWS" d).isSome = false)
    (hh : pyMatch "PAT_HURDLES" d = none) (hj : (pyMatch "PAT_JUMPS" d).isSome = true) :
    ∃ n, sortKey d = .ok (3, n) := by
  have hM : Matches Gen.PAT_JUMPS d := (pyMatch_iff _ _ (Oblig.C07.tied mem_JUMPS) d).1 hj
  obtain ⟨n, hn⟩ := fieldOrder_of_prefixK false _ (fieldSpellingsOK_short Oblig.C10.field_spellings)
    Oblig.C10.jumps_prefix d hM
  exact ⟨n, by unfold sortKey; simp only [List.isEmpty_eq_false_iff.2 hd, ht, hh, hj, hn, Bool.false_eq_true, if_false, if_true, Except.map]⟩

/-- **Track codes with a metres part never fail**: the part is `\d+`, `MILE`, or a digit and `MILE`. -/
theorem C10_track_metres_total (d : Str) (tc : GRE.Caps) (g1 : Str)
    (hm : pyMatch "PAT_TRACK" d = some tc) (hg : group d tc 1 = some g1) :
    ∃ n, (if strEq g1 "MILE" then (Except.ok (1, 1609) : Except PyErr (Nat × Nat))
          else if endsWith g1 "MILE" then (pyInt (g1.take 1)).map (fun m => (1, 1609 * m))
          else (pyInt g1).map (fun n => (1, n))) = .ok (1, n) := by
  rcases track_metres_shape Oblig.C10.track_metres d tc g1 hm hg with ⟨hne, hdig⟩ | rfl | ⟨c, hc, rfl⟩
  · obtain ⟨n, hn⟩ := pyInt_of_digits Oblig.C10.digit_table g1 hne hdig
    have hne1 : g1.take 1 ≠ [] := by cases g1 <;> simp_all
    obtain ⟨m, hm1⟩ := pyInt_of_digits Oblig.C10.digit_table (g1.take 1) hne1
      (fun c hc => hdig c (List.mem_of_mem_take hc))
    split
    · exact ⟨_, rfl⟩
    · split
      · exact ⟨_, by rw [hm1]; rfl⟩
      · exact ⟨_, by rw [hn]; rfl⟩
  · have h1 : strEq mileWord "MILE" = true := by decide
    exact ⟨1609, by simp only [h1, if_true]⟩
  · obtain ⟨m, hm1⟩ := pyInt_of_digits Oblig.C10.digit_table [c] (by simp) (by simpa using hc)
    have h1 : strEq (c :: mileWord) "MILE" = false := by
      simp [strEq, mileWord]
    have h2 : endsWith (c :: mileWord) "MILE" = true := by
      simp [endsWith, mileWord]
    simp only [h1, h2, Bool.false_eq_true, if_false, if_true, List.take_succ_cons, List.take_zero, hm1, Except.map]
    exact ⟨_, rfl⟩

theorem code_facts : CodeFacts :=
  .of_checks Oblig.C10.digit_table Oblig.C10.leading Oblig.C10.leading_shape Oblig.C10.num_facts Oblig.C10.relay_leg
    Oblig.C10.leg_shape (Oblig.C07.tied mem_RELAYS) Oblig.C10.relays_legs

/-- **`get_distance` returns on every string that has a token**, an event code or not (`Lemmas/DistRelay`): a token that is
    no relay starts with a number `float()` accepts or gives `None`; the leg of a relay is a number with an optional unit
    letter — for which the greedy leading-number patterns leave exactly that letter, a unit the function knows — or one of
    the six names it treats specially, so `int(legs) * get_distance(leg)` never meets `None`. -/
theorem C10_getDistance_total_of_token (s : Str) (hns : ∃ c ∈ s, isSpaceC c = false) (fuel : Nat) :
    ∃ r, getDistance (fuel + 2) s = .ok r :=
  getDistance_total code_facts s hns fuel

/-- **Relays never fail**: the leg is a plain number, or it is handed, upper-cased, to `get_distance`; it is not empty and
    has no white space (`Lemmas/RelayLeg`), so it has a token. -/
theorem C10_relays_total (d : Str) (rc : GRE.Caps) (hd : d ≠ []) (ht : (pyMatch "PAT_THROWS" d).isSome = false)
    (hh : pyMatch "PAT_HURDLES" d = none) (hj : (pyMatch "PAT_JUMPS" d).isSome = false)
    (hr : pyMatch "PAT_RELAYS" d = some rc) : ∃ n, sortKey d = .ok (5, n) := by
  obtain ⟨t, hg, hne, hup, _⟩ := code_facts.leg d rc hr
  obtain ⟨c, cs, hc⟩ := List.exists_cons_of_ne_nil hne
  obtain ⟨r, hrr⟩ := C10_getDistance_total_of_token (upper t)
    ⟨c, by rw [hc]; exact List.mem_cons_self, (hup c (by rw [hc]; exact List.mem_cons_self)).1⟩ 6
  unfold sortKey
  simp only [List.isEmpty_eq_false_iff.2 hd, ht, hh, hj, hr, hg, Option.getD_some, hrr, Bool.false_eq_true, if_false]
  cases pyInt t with
  | ok n => exact ⟨n, rfl⟩
  | error _ =>
    cases r with
    | none => exact ⟨0, rfl⟩
    | some n => exact ⟨n, rfl⟩

/-- **Track codes never fail**: with a metres part by `C10_track_metres_total`; a code without one (`SC`, `2MT`, …) is
    handed to `get_distance`, and no track code is blank. -/
theorem C10_track_total (d : Str) (tc : GRE.Caps) (hd : d ≠ []) (ht : (pyMatch "PAT_THROWS" d).isSome = false)
    (hh : pyMatch "PAT_HURDLES" d = none) (hj : (pyMatch "PAT_JUMPS" d).isSome = false)
    (hr : pyMatch "PAT_RELAYS" d = none) (htr : pyMatch "PAT_TRACK" d = some tc) : ∃ n, sortKey d = .ok (1, n) := by
  unfold sortKey
  simp only [List.isEmpty_eq_false_iff.2 hd, ht, hh, hj, hr, htr, Bool.false_eq_true, if_false]
  cases hg : group d tc 1 with
  | some g1 => exact C10_track_metres_total d tc g1 htr hg
  | none =>
    have hM : Matches Gen.PAT_TRACK d := (pyMatch_iff _ _ (Oblig.C07.tied mem_TRACK) d).1 (by rw [htr]; rfl)
    obtain ⟨r, hrr⟩ := C10_getDistance_total_of_token d (exists_nonspace Oblig.C10.track_token hM) 6
    simp only [hrr]
    cases r with
    | none => exact ⟨0, rfl⟩
    | some n => exact ⟨n, rfl⟩

/-- the category of a discipline: that of the first family that matches, tried in the order of the source
    (throws, hurdles incl. steeplechase with a distance, jumps, relays, track), else 6, "other" -/
def category (d : Str) : Nat :=
  if (pyMatch "PAT_THROWS" d).isSome then 4
  else if (pyMatch "PAT_HURDLES" d).isSome then 2
  else if (pyMatch "PAT_JUMPS" d).isSome then 3
  else if (pyMatch "PAT_RELAYS" d).isSome then 5
  else if (pyMatch "PAT_TRACK" d).isSome then 1 else 6

/-- **Every non-empty string gets a key, and its first component is the category of the string**: family by family, by
    the lemmas above; a string outside every family gets `(6, 0)`. -/
theorem sortKey_category (d : Str) (hd : d ≠ []) : ∃ n, sortKey d = .ok (category d, n) := by
  unfold category
  cases ht : (pyMatch "PAT_THROWS" d).isSome with
  | true => exact C10_throws_total d hd ht
  | false =>
  cases hh : pyMatch "PAT_HURDLES" d with
  | some hc => exact C10_hurdles_total d hc hd ht hh
  | none =>
  cases hj : (pyMatch "PAT_JUMPS" d).isSome with
  | true => exact C10_jumps_total d hd ht hh hj
  | false =>
  cases hr : pyMatch "PAT_RELAYS" d with
  | some rc => exact C10_relays_total d rc hd ht hh hj hr
  | none =>
  cases htr : pyMatch "PAT_TRACK" d with
  | some tc => exact C10_track_total d tc hd ht hh hj hr htr
  | none =>
    refine ⟨0, ?_⟩
    unfold sortKey
    simp only [List.isEmpty_eq_false_iff.2 hd, ht, hh, hj, hr, htr, Bool.false_eq_true, if_false]
    rfl

/-- **`discipline_sort_key` never fails — on ANY string.** -/
theorem C10_sortKey_total (d : Str) : ∃ k, sortKey d = .ok k := by
  by_cases hd : d = []
  · subst hd
    exact ⟨(6, 0), rfl⟩
  · obtain ⟨n, hn⟩ := sortKey_category d hd
    exact ⟨_, hn⟩

/-- the category is fixed by the first family that matches, tried in the order of the source:
    throws, hurdles (incl. steeplechase with a distance), jumps, relays, track, else "other" -/
theorem C10_category_of_family (d : Str) (k : Nat × Nat) (hd : d ≠ []) (h : sortKey d = .ok k) :
    k.1 = (if (pyMatch "PAT_THROWS" d).isSome then 4
           else if (pyMatch "PAT_HURDLES" d).isSome then 2
           else if (pyMatch "PAT_JUMPS" d).isSome then 3
           else if (pyMatch "PAT_RELAYS" d).isSome then 5
           else if (pyMatch "PAT_TRACK" d).isSome then 1 else 6) := by
  obtain ⟨n, hn⟩ := sortKey_category d hd
  rw [hn] at h
  cases h
  rfl

/-- categories are 1..6 -/
theorem C10_category_range (d : Str) (k : Nat × Nat) (h : sortKey d = .ok k) : 1 ≤ k.1 ∧ k.1 ≤ 6 := by
  by_cases hd : d = []
  · subst hd
    cases h
    decide
  · rw [C10_category_of_family d k hd h]
    repeat' split
    all_goals decide

/-- **The category is decided by language membership**: the first of throws, hurdles, jumps, relays, track
    (the languages of the C04 theorems) that contains the code, in that order; 6 when none does. -/
theorem C10_category_by_language (d : Str) (k : Nat × Nat) (hd : d ≠ []) (h : sortKey d = .ok k) :
    k.1 = (if Gen.PAT_THROWS.matchesChars d then 4
           else if Gen.PAT_HURDLES.matchesChars d then 2
           else if Gen.PAT_JUMPS.matchesChars d then 3
           else if Gen.PAT_RELAYS.matchesChars d then 5
           else if Gen.PAT_TRACK.matchesChars d then 1 else 6) := by
  rw [C10_category_of_family d k hd h, pyMatch_eq_language mem_THROWS, pyMatch_eq_language mem_HURDLES,
    pyMatch_eq_language mem_JUMPS, pyMatch_eq_language mem_RELAYS, pyMatch_eq_language mem_TRACK]

/-- **The sort key can only fail through `get_distance`**: if `discipline_sort_key` fails then a `get_distance` call failed
    with that error.  Given `C10_sortKey_total` the hypothesis cannot be met: no call fails, and this statement holds for
    that reason alone. -/
theorem C10_sortKey_fails_only_through_getDistance (d : Str) (e : PyErr) (h : sortKey d = .error e) :
    ∃ x, getDistance 8 x = .error e := by
  obtain ⟨k, hk⟩ := C10_sortKey_total d
  rw [hk] at h
  cases h

/-- … hence the text key and the sorter never fail either. -/
theorem C10_textKey_total (d : Str) : ∃ t, textKey d = .ok t :=
  (C10_text_total_iff d).2 (C10_sortKey_total d)

theorem C10_sortBy_total (l : List Str) : ∃ r, sortBy l = .ok r := by
  unfold sortBy
  obtain ⟨tagged, ht⟩ := mapM_ok_of_forall (fun d => (sortKey d).map (fun k => ((k, if d.isEmpty then ['?'] else d), d))) l
    (fun d => by
      obtain ⟨k, hk⟩ := C10_sortKey_total d
      exact ⟨_, by rw [hk]; rfl⟩)
  rw [ht]
  exact ⟨_, rfl⟩

/-- **`get_distance` returns on every event code**, relays included: no event code is blank. -/
theorem C10_getDistance_total (s : Str) (hc : (pyMatch "PAT_EVENT_CODE" s).isSome = true) :
    ∃ r, getDistance 8 s = .ok r :=
  C10_getDistance_total_of_token s
    (exists_nonspace Oblig.C10.codes_have_token ((pyMatch_iff _ _ (Oblig.C07.tied Oblig.C07.mem_EVENT_CODE) s).1 hc)) 6

/-- Contained in `C10_sortKey_total`, `C10_textKey_total`, `C10_duration_total` and `C10_getDistance_total`: for every string
    the sort key, its text form and the duration reader return; for every accepted code that is not a relay the distance
    estimator returns. -/
theorem C10_total_partial (s : Str) :
    (∃ k, sortKey s = .ok k) ∧ (∃ t, textKey s = .ok t) ∧ (∃ r, durationTime s = .ok r) ∧
    ((pyMatch "PAT_EVENT_CODE" s).isSome = true → (pyMatch "PAT_RELAYS" s).isSome = false →
      ∃ r, getDistance 8 s = .ok r) :=
  ⟨C10_sortKey_total s, C10_textKey_total s, C10_duration_total s, fun hc _ => C10_getDistance_total s hc⟩

/-- Full statement of the totality clause. -/
def C10_total_statement : Prop :=
  ∀ s : Str, (pyMatch "PAT_EVENT_CODE" s).isSome →
    (∃ k, sortKey s = .ok k) ∧ (∃ r, getDistance 8 s = .ok r) ∧ (∃ r, durationTime s = .ok r)

/-- **C10, totality clause, proved**: for every string accepted as an event code the sort key, the distance estimator and
    the duration reader return a value. -/
theorem C10_total : C10_total_statement :=
  fun s hc => ⟨C10_sortKey_total s, C10_getDistance_total s hc, C10_duration_total s⟩

/-- non-vacuity: accepted codes of several families, kernel-evaluated through the model -/
def distIs (c : String) (n : Nat) : Bool := match getDistance 8 c.toList with | .ok (some m) => m == n | _ => false
example : (pyMatch "PAT_EVENT_CODE" "4x1.5K".toList).isSome = true ∧ distIs "4x1.5K" 6000 = true ∧
    (pyMatch "PAT_EVENT_CODE" "3000SC".toList).isSome = true ∧ distIs "3000SC" 3000 = true := by
  decide +kernel

end AthlibVerif.Props.C10
