import AthlibVerif.Lemmas.Sym
import AthlibVerif.Lemmas.Classify
import AthlibVerif.Oblig.C04.EqEventCode
import AthlibVerif.Oblig.C04.EqJumps
import AthlibVerif.Oblig.C04.EqRun
import AthlibVerif.Oblig.C04.EqField
import AthlibVerif.Oblig.C04.EqLengthEvent
import AthlibVerif.Oblig.C04.EqTimedEvent
import AthlibVerif.Oblig.C04.EqFinishRecord
import AthlibVerif.Oblig.C04.DisjTimedField
import AthlibVerif.Oblig.C04.DisjTimedMulti
import AthlibVerif.Oblig.C04.DisjTimedDuration
import AthlibVerif.Oblig.C04.DisjFieldMulti
import AthlibVerif.Oblig.C04.DisjFieldDuration
import AthlibVerif.Oblig.C04.DisjMultiDuration
import AthlibVerif.Oblig.C04.DisjJumpsThrows
/-!
# C04 — Event-code families: unions are exact and measurement kinds never overlap

`Matches P s` is the denotational reading of `P.match(s) is not None` for the pattern `P`
regenerated from `athlib/codes.py` (`Gen/Patterns.lean`); `s` ranges over **all** character
lists (no length bound; every Unicode scalar value maps to a symbol of the generated alphabet).
-/
namespace AthlibVerif.Props.C04
open AthlibVerif AthlibVerif.Gen AthlibVerif.Oblig.C04

inductive Kind | timed | field | multi | duration deriving DecidableEq, Repr

def kindFamilies : List (Kind × (List Char → Bool)) :=
  [(.timed, PAT_TIMED_EVENT.matchesChars), (.field, PAT_FIELD.matchesChars),
   (.multi, PAT_MULTI.matchesChars), (.duration, PAT_RACES_FOR_DISTANCE.matchesChars)]

/-- `unit_name`-style classifier: jumps, throws (else seconds) -/
def unitFamilies : List (String × (List Char → Bool)) :=
  [("metres-jump", PAT_JUMPS.matchesChars), ("metres-throw", PAT_THROWS.matchesChars)]

/-- The property, at full strength. -/
def C04_statement : Prop :=
  -- the general pattern is exactly the union of the specific families
  (∀ s, Matches PAT_EVENT_CODE s ↔
      (Matches PAT_TRACK s ∨ Matches PAT_HURDLES s ∨ Matches PAT_ROAD s ∨ Matches PAT_RELAYS s ∨
       Matches PAT_JUMPS s ∨ Matches PAT_THROWS s ∨ Matches PAT_MULTI s ∨
       Matches PAT_RACES_FOR_DISTANCE s ∨ Matches PAT_HIGHSCORING_EVENT s ∨ Matches PAT_LOWSCORING_EVENT s)) ∧
  -- every published composite is exactly the union of its parts
  (∀ s, Matches PAT_JUMPS s ↔ (Matches PAT_VERTICAL_JUMPS s ∨ Matches PAT_HORIZONTAL_JUMPS s)) ∧
  (∀ s, Matches PAT_RUN s ↔ (Matches PAT_TRACK s ∨ Matches PAT_ROAD s ∨ Matches PAT_RELAYS s)) ∧
  (∀ s, Matches PAT_FIELD s ↔ (Matches PAT_THROWS s ∨ Matches PAT_JUMPS s)) ∧
  (∀ s, Matches PAT_LENGTH_EVENT s ↔ (Matches PAT_HORIZONTAL_JUMPS s ∨ Matches PAT_THROWS s)) ∧
  (∀ s, Matches PAT_TIMED_EVENT s ↔
      (Matches PAT_TRACK s ∨ Matches PAT_HURDLES s ∨ Matches PAT_ROAD s ∨ Matches PAT_RELAYS s)) ∧
  (∀ s, Matches PAT_FINISH_RECORD s ↔
      (Matches PAT_PERF s ∨ Matches PAT_FINISHED s ∨ Matches PAT_NOT_FINISHED s)) ∧
  -- the four measurement kinds are pairwise disjoint
  (∀ s, ¬ (Matches PAT_TIMED_EVENT s ∧ Matches PAT_FIELD s)) ∧
  (∀ s, ¬ (Matches PAT_TIMED_EVENT s ∧ Matches PAT_MULTI s)) ∧
  (∀ s, ¬ (Matches PAT_TIMED_EVENT s ∧ Matches PAT_RACES_FOR_DISTANCE s)) ∧
  (∀ s, ¬ (Matches PAT_FIELD s ∧ Matches PAT_MULTI s)) ∧
  (∀ s, ¬ (Matches PAT_FIELD s ∧ Matches PAT_RACES_FOR_DISTANCE s)) ∧
  (∀ s, ¬ (Matches PAT_MULTI s ∧ Matches PAT_RACES_FOR_DISTANCE s)) ∧
  -- so first-match classification gives the same answer in any order of the families
  (∀ s fams', (∀ f, f ∈ kindFamilies ↔ f ∈ fams') → classify kindFamilies s = classify fams' s) ∧
  (∀ s fams', (∀ f, f ∈ unitFamilies ↔ f ∈ fams') → classify unitFamilies s = classify fams' s)

private theorem dsjB {a b : RE} (h : RE.emptyK nsym 100000 (RE.and a b) = true) (s : List Char) :
    a.matchesChars s = true → b.matchesChars s = true → False :=
  fun ha hb => Matches.disjointK h s ⟨(matchesChars_iff a s).1 ha, (matchesChars_iff b s).1 hb⟩

theorem C04_event_code (s : List Char) : Matches PAT_EVENT_CODE s ↔
      (Matches PAT_TRACK s ∨ Matches PAT_HURDLES s ∨ Matches PAT_ROAD s ∨ Matches PAT_RELAYS s ∨
       Matches PAT_JUMPS s ∨ Matches PAT_THROWS s ∨ Matches PAT_MULTI s ∨
       Matches PAT_RACES_FOR_DISTANCE s ∨ Matches PAT_HIGHSCORING_EVENT s ∨ Matches PAT_LOWSCORING_EVENT s) :=
  Matches.equiv eqEventCode s

theorem C04_kinds_order_free (s : List Char) (fams' : List (Kind × (List Char → Bool)))
    (h : ∀ f, f ∈ kindFamilies ↔ f ∈ fams') : classify kindFamilies s = classify fams' s := by
  apply classify_order_free_of_disjoint _ _ _ _ h
  simp only [kindFamilies, List.pairwise_cons, List.forall_mem_cons, List.not_mem_nil, false_imp_iff,
    implies_true, List.Pairwise.nil, and_true]
  -- one disjointness obligation for each of the six pairs, in the order of the list
  exact ⟨⟨dsjB disjTimedField s, dsjB disjTimedMulti s, dsjB disjTimedDuration s⟩,
    ⟨dsjB disjFieldMulti s, dsjB disjFieldDuration s⟩, dsjB disjMultiDuration s⟩

theorem C04_units_order_free (s : List Char) (fams' : List (String × (List Char → Bool)))
    (h : ∀ f, f ∈ unitFamilies ↔ f ∈ fams') : classify unitFamilies s = classify fams' s := by
  apply classify_order_free_of_disjoint _ _ _ _ h
  simp only [unitFamilies, List.pairwise_cons, List.forall_mem_cons, List.not_mem_nil, false_imp_iff,
    implies_true, List.Pairwise.nil, and_true]
  exact dsjB disjJumpsThrows s

/-- `Matches (.alt a b) s` unfolds to `Matches a s ∨ Matches b s`, so each union clause is the equality obligation
    (`Oblig/C04/Eq*`: the pattern against the `alt` of its parts) read on strings, as it stands -/
theorem C04 : C04_statement :=
  ⟨C04_event_code, Matches.equiv eqJumps, Matches.equiv eqRun, Matches.equiv eqField, Matches.equiv eqLengthEvent,
    Matches.equiv eqTimedEvent, Matches.equiv eqFinishRecord, Matches.disjointK disjTimedField, Matches.disjointK disjTimedMulti,
    Matches.disjointK disjTimedDuration, Matches.disjointK disjFieldMulti, Matches.disjointK disjFieldDuration,
    Matches.disjointK disjMultiDuration, C04_kinds_order_free, C04_units_order_free⟩

/-! non-vacuity: the families are inhabited (kernel-evaluated on concrete codes) -/
example : PAT_EVENT_CODE.matchesChars "4x100".toList = true ∧ PAT_RELAYS.matchesChars "4x100".toList = true := by
  decide +kernel
example : PAT_FIELD.matchesChars "DT1.5K".toList = true ∧ PAT_TIMED_EVENT.matchesChars "DT1.5K".toList = false := by
  decide +kernel

end AthlibVerif.Props.C04
