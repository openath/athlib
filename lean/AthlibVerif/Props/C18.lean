import AthlibVerif.Props.C06
/-!
# C18 — The JavaScript port computes the same answers as the Python reference

**What is proved and what is not.**  No theorem here speaks about node or about CPython.  The agreement of the two
ports is established by TWO CORRESPONDENCES on the same request lines — Python ↔ Lean model and JavaScript ↔ Lean
model (`tools/checks/c18.py`) — and is therefore partial by nature: it holds on the requests that were run
(exhaustive only over the finite grids of the thorough tier).  What the Lean side contributes:

* the shared reference is the C06 model (`roundUpStr`, `formatSeconds`, `parseHms`) plus `isHandTiming`; wherever
  both ports equal the model, both are *right* (every C06 theorem applies to both), not merely equal —
  `C18_agree_of_correspondence` is that inference spelled out;
* the JavaScript-specific step of `roundUpStrNum`, the float increment `(i - 0) + 1`, is exact on the shared domain:
  `C18_js_int_exact` (all naturals below 2^53 − 1, hence every digit string of at most 15 digits) and is NOT exact
  beyond it (`C18_js_int_inexact_witness`), which is why the correspondence guards JS requests to ≤ 15 digits;
* `C18_hand_timing`: the model of `is_hand_timing` / `isHandTiming` answers "fewer than two characters after the
  last point, or no point".

Tyrving / QuadKids scores, key normalisation and the duplicated tables are compared JS ↔ Python directly.
-/
namespace AthlibVerif.Props.C18
open AthlibVerif.Digits AthlibVerif.Times

/-- if each port equals the shared model on an input, the ports agree there and inherit whatever is proved of the
model -/
theorem C18_agree_of_correspondence {α β : Type} (py js model : α → β) (x : α)
    (hpy : py x = model x) (hjs : js x = model x) :
    py x = js x ∧ ∀ P : β → Prop, P (model x) → P (py x) ∧ P (js x) := by
  refine ⟨by rw [hpy, hjs], fun P h => ?_⟩
  rw [hpy, hjs]; exact ⟨h, h⟩

/-- number of binary digits (fuel ≥ the number itself is plenty) -/
def bitLen : Nat → Nat → Nat
  | 0, _ => 0
  | fuel + 1, n => if n = 0 then 0 else bitLen fuel (n / 2) + 1

/-- IEEE-754 binary64 rounding of a natural number (53 significant bits, round to nearest, ties to even; no
overflow below 2^1024): what JavaScript's `s - 0` and `x + 1` yield for integer-valued operands -/
def f64 (n : Nat) : Nat :=
  if n < 2 ^ 53 then n
  else
    let e := bitLen n n - 53
    let q := n / 2 ^ e
    let r := n % 2 ^ e
    (if 2 * r > 2 ^ e ∨ (2 * r = 2 ^ e ∧ q % 2 = 1) then q + 1 else q) * 2 ^ e

/-- the JavaScript increment `(i - 0) + 1` is exact whenever the result is below 2^53 -/
theorem C18_js_int_exact (n : Nat) (h : n + 1 < 2 ^ 53) : f64 (f64 n + 1) = n + 1 := by
  have h1 : f64 n = n := by unfold f64; rw [if_pos (by omega)]
  rw [h1]; unfold f64; rw [if_pos h]

/-- in particular for every digit string of at most 15 digits (the shared domain of `roundUpStrNum`) -/
theorem C18_js_int_exact_digits (l : List Char) (h : l.length ≤ 15) : f64 (f64 (val l) + 1) = val l + 1 := by
  apply C18_js_int_exact
  have h1 := val_lt l
  have h2 : 10 ^ l.length ≤ 10 ^ 15 := Nat.pow_le_pow_right (by omega) h
  have h3 : 10 ^ 15 + 1 < 2 ^ 53 := by decide
  omega

/-- and it is not exact in general: 2^53 + 1 is not a double -/
theorem C18_js_int_inexact_witness : f64 (f64 (2 ^ 53) + 1) ≠ 2 ^ 53 + 1 := by decide

/-- hand timing: no decimal point at all, or fewer than two characters after the last one -/
theorem C18_hand_timing :
    (∀ s : List Char, '.' ∉ s → isHandTiming s = true) ∧
    (∀ a b : List Char, '.' ∉ b → isHandTiming (a ++ '.' :: b) = decide (b.length < 2)) := by
  constructor
  · intro s hs
    simp [isHandTiming, afterLastDot, hs]
  · intro a b hb
    have hc : (a ++ '.' :: b).contains '.' = true := List.contains_iff_mem.2 (by simp)
    have hr : (a ++ '.' :: b).reverse = b.reverse ++ '.' :: a.reverse := by simp
    have ht : (b.reverse ++ '.' :: a.reverse).takeWhile (fun c => decide (c ≠ '.')) = b.reverse := by
      rw [List.takeWhile_append_of_pos (p := fun c => decide (c ≠ '.')) fun c hc =>
        decide_eq_true fun e => hb (e ▸ List.mem_reverse.1 hc)]
      simp
    simp only [isHandTiming, afterLastDot, hc, if_true, hr, ht, List.length_reverse]

example : isHandTiming "12.0".toList = true ∧ isHandTiming "12.05".toList = false ∧ isHandTiming "12".toList = true ∧
    isHandTiming "1:02.3".toList = true := by decide

end AthlibVerif.Props.C18
