import AthlibVerif.Lemmas.RPow
import AthlibVerif.Oblig.C01.Table
/-!
# C01 — Combined-events points equal the official formula on the decimal mark

The model `Athlon.score` works on the decimal mark `k/100` (a `Nat` of hundredths) in integers.
Here it is proved equal to the World Athletics formula `⌊A · |x − Z| ^ X⌋` over the reals
(`Real.rpow`), with `x` the mark after the age factor rounded up (times) / down (distances) to 0.01.
Independence from binary floating point is by construction (no float in the model); that the
*implementation* equals the model on the whole grid is the correspondence (tools/checks/c01.py).
-/
namespace AthlibVerif.Props.C01
open AthlibVerif AthlibVerif.Athlon

noncomputable def A (r : ScoreRow) : ℝ := (r.aN : ℝ) / r.aD
noncomputable def Z (r : ScoreRow) : ℝ := (r.z100 : ℝ) / 100
noncomputable def X (r : ScoreRow) : ℝ := (r.xa : ℝ) / r.xb

/-- distance of the mark `k/100` from the zero point, in table units, on the scoring side (else 0) -/
noncomputable def dist (r : ScoreRow) (kind : EvKind) (k : ℕ) : ℝ :=
  max 0 (match kind with
    | .jump => (k : ℝ) - Z r             -- jumps are tabulated in centimetres: k/100 m = k cm
    | .throw => (k : ℝ) / 100 - Z r
    | .track => Z r - (k : ℝ) / 100)

def WellFormed (r : ScoreRow) : Prop := 0 < r.aN ∧ 0 < r.aD ∧ 0 < r.xa ∧ 0 < r.xb

theorem cast_natSub (a b : ℕ) : ((a - b : ℕ) : ℝ) = max 0 ((a : ℝ) - b) := by
  rcases le_total b a with h | h
  · rw [Nat.cast_sub h, max_eq_right (sub_nonneg.2 (Nat.cast_le.2 h))]
  · rw [Nat.sub_eq_zero_of_le h, Nat.cast_zero, max_eq_left (sub_nonpos.2 (Nat.cast_le.2 h))]

theorem base_cast (r : ScoreRow) (kind : EvKind) (k : ℕ) : ((base r kind k : ℕ) : ℝ) / 100 = dist r kind k := by
  unfold base dist Z
  -- for each kind: the positive part of a difference of hundredths, divided by 100
  cases kind
  all_goals
    simp only
    rw [cast_natSub, ← max_div_div_right (by norm_num : (0 : ℝ) ≤ 100), zero_div]
    congr 1
    push_cast
    ring

/-- **The formula.** For every well-formed row, every kind and every mark: the model's points are
    `⌊A · |x − Z|^X⌋` in exact real arithmetic (0 at or beyond the zero point). -/
theorem C01_formula (r : ScoreRow) (kind : EvKind) (k : ℕ) (h : WellFormed r) :
    points r kind k = ⌊A r * dist r kind k ^ X r⌋₊ := by
  unfold points A X
  rw [← base_cast, floorPow_eq_floor_rpow _ _ _ _ _ _ h.2.2.2 h.2.1 (by norm_num)]
  norm_num

/-- **Rounding after the age factor** (Galois form): for times the adjusted mark is the least
    hundredth not below `k·f`; for distances the greatest hundredth not above it. -/
theorem C01_rounding (k fN fD : ℕ) (hD : 0 < fD) :
    (∀ m, adjust .track k fN fD ≤ m ↔ k * fN ≤ m * fD) ∧
    (∀ m, m ≤ adjust .jump k fN fD ↔ m * fD ≤ k * fN) ∧
    (∀ m, m ≤ adjust .throw k fN fD ↔ m * fD ≤ k * fN) :=
  ⟨fun m => ceilDiv_le_iff _ _ m hD, fun m => le_floorDiv_iff _ _ m hD, fun m => le_floorDiv_iff _ _ m hD⟩

/-- the same in real arithmetic: ceiling / floor of `k · (fN/fD)` -/
theorem C01_rounding_real (k fN fD : ℕ) (hD : 0 < fD) :
    adjust .track k fN fD = ⌈(k : ℝ) * ((fN : ℝ) / fD)⌉₊ ∧
    adjust .throw k fN fD = ⌊(k : ℝ) * ((fN : ℝ) / fD)⌋₊ ∧
    adjust .jump k fN fD = ⌊(k : ℝ) * ((fN : ℝ) / fD)⌋₊ := by
  have hD' : (0 : ℝ) < fD := by exact_mod_cast hD
  have e : (k : ℝ) * ((fN : ℝ) / fD) = ((k * fN : ℕ) : ℝ) / fD := by push_cast; ring
  refine ⟨?_, ?_, ?_⟩
  · apply le_antisymm
    · rw [(C01_rounding k fN fD hD).1, e]
      have := Nat.le_ceil (((k * fN : ℕ) : ℝ) / fD)
      rw [div_le_iff₀ hD'] at this
      exact_mod_cast this
    · rw [Nat.ceil_le, e, div_le_iff₀ hD']
      have := ((C01_rounding k fN fD hD).1 (adjust .track k fN fD)).1 (le_refl _)
      exact_mod_cast this
  · rw [e]; unfold adjust floorDiv; simp only
    rw [Nat.floor_div_eq_div]
  · rw [e]; unfold adjust floorDiv; simp only
    rw [Nat.floor_div_eq_div]

/-- **Young athletes.** An age below the first masters band leaves the score unadjusted. -/
theorem C01_young_unadjusted (tbl : List ScoreRow) (er : ScoreRow) (d : AgeData) (g e : String) (k age : ℕ)
    (esaa : Bool) (h : age < d.minAge) :
    score tbl er d g e k (some age) esaa = score tbl er d g e k none esaa := by
  cases age with
  | zero => rfl
  | succ n => simp [score, ageFactor, h]

/-- **Unknown pairs.** An unknown gender/event pair yields no score, whatever the age and option;
    a known pair without age adjustment always yields points. -/
theorem C01_unknown_none (tbl : List ScoreRow) (er : ScoreRow) (d : AgeData) (g e : String) (k : ℕ) (esaa : Bool) :
    (∀ age, lookup tbl g (remap g e) = none → score tbl er d g e k age esaa = .none) ∧
    (∀ r, lookup tbl g (remap g e) = some r → ∃ p, score tbl er d g e k none esaa = .points p) := by
  constructor
  · intro age h; simp only [score]; rw [h]
  · intro r h; simp only [score]; rw [h]; exact ⟨_, rfl⟩

/-- every row regenerated from `athlon_score.py` (and the ESAA override) is a well-formed power law -/
theorem C01_table_wellformed : ∀ r ∈ Gen.esaaRow :: Gen.scoringTable, WellFormed r := by
  intro r hr
  have := List.all_eq_true.1 Oblig.C01.table_ok r hr
  simp only [Oblig.C01.rowOK, Bool.and_eq_true, decide_eq_true_eq] at this
  exact ⟨this.1.1.1, this.1.1.2, this.1.2, this.2⟩

private theorem esaa_or_row_mem (c : Bool) (row : ScoreRow) (h : row ∈ Gen.scoringTable) :
    (if c = true then Gen.esaaRow else row) ∈ Gen.esaaRow :: Gen.scoringTable := by
  split
  · exact List.mem_cons_self
  · exact List.mem_cons_of_mem _ h

/-- whatever the model returns as points over the regenerated tables is `⌊A · dist ^ X⌋` for SOME row of the table
    (or the ESAA row), some kind and some factor over the age table's scale: which of them `score` picks for a
    gender, event and age is not part of this statement -/
theorem C01_points_are_formula (g e : String) (k : ℕ) (age : Option ℕ) (esaa : Bool) (p : ℕ)
    (h : score Gen.scoringTable Gen.esaaRow Gen.athlonAges g e k age esaa = .points p) :
    ∃ r kind fN, r ∈ Gen.esaaRow :: Gen.scoringTable ∧
      p = ⌊A r * dist r kind (adjust kind k fN Gen.athlonAges.scale) ^ X r⌋₊ := by
  unfold score at h
  simp only at h
  split at h
  · cases h
  · next row hrow =>
    have hmem : row ∈ Gen.scoringTable := List.mem_of_find?_eq_some hrow
    split at h
    · next e' _ => cases e' <;> cases h
    · next fN hf =>
      injection h with h
      subst h
      exact ⟨_, _, fN, esaa_or_row_mem _ row hmem, C01_formula _ _ _ (C01_table_wellformed _ (esaa_or_row_mem _ row hmem))⟩

/-! non-vacuity, kernel-evaluated on the regenerated table: 10.22 s for the men's 100 m is 1042 points
    (the float evaluation `ceil(100*10.22) = 1023` would give 1040); a 40-year-old's 11.00 s is 942 -/
example : score Gen.scoringTable Gen.esaaRow Gen.athlonAges "M" "100" 1022 none false = .points 1042 := by decide +kernel
example : score Gen.scoringTable Gen.esaaRow Gen.athlonAges "M" "100" 1100 (some 40) false = .points 942 := by decide +kernel
example : score Gen.scoringTable Gen.esaaRow Gen.athlonAges "X" "100" 1100 none false = .none := by decide +kernel

end AthlibVerif.Props.C01
