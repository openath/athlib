import AthlibVerif.Lemmas.Conc
/-!
# C16 — Concurrent calls give the same answers as single-threaded ones

Model: `Model/Conc.lean` (threads = deterministic step machines over a shared store, one step = one athlib
source line or one lock-protected block; `runSched` follows an arbitrary list of thread ids).

For the protocols of the **repaired** code the theorems below say: after **every** schedule (any length, any
order, no fairness), for **any number of threads**, with the shared state initially unbuilt *or* already
built (first-call and warmed-up variants), every thread that has finished holds exactly the value a
single-threaded call returns.  `*_sequential` lemmas show that this value *is* what a thread running alone
computes (so the statements are not vacuous and the right-hand sides are the sequential results).
The theorems named `_linearizable` state just that, about results; no history and no linearisation order appears in them.
For the protocols of the **pinned** code the negation is proved by an explicit, kernel-decided schedule.

Partial by nature (DESIGN.md section 7/C16): bytecode-level pre-emption inside a source line, C-level dict
atomicity and free-threaded builds are below the model's granularity; the link from the source to these step
machines is the access-list discipline (`Oblig/C16/Discipline.lean`) plus the scheduler correspondence.
-/
namespace AthlibVerif.Props.C16
open AthlibVerif AthlibVerif.Conc

theorem lazy_inv (src : Table) (g0 : Option Table) (hg0 : tableGI src g0) (keys sched : List Nat) :
    tableGI src (runSched (lazyStep src) (lazyInit g0 keys) sched).g ∧
      ∀ t ∈ (runSched (lazyStep src) (lazyInit g0 keys) sched).ts,
        lazyTI src (runSched (lazyStep src) (lazyInit g0 keys) sched).g t :=
  runSched_inv _ _ _ (lazyStep_inv src) _ hg0 (List.forall_mem_map.2 fun _ _ => trivial) sched

/-- lazy dictionary, built locally and published once (`athlon_score._scoring_objects`, `hungarian_score._table`) -/
theorem C16_publish_after_build_linearizable (src : Table) (g0 : Option Table) (hg0 : g0 = none ∨ g0 = some src)
    (keys : List Nat) (sched : List Nat) (t : LazyT) (r : Option Nat)
    (ht : t ∈ (runSched (lazyStep src) (lazyInit g0 keys) sched).ts) (hd : t.pc = .done r) :
    r = src.lookup t.key := by
  simpa [lazyTI, hd] using (lazy_inv src g0 hg0 keys sched).2 t ht

/-- the shared cell is never observed half-built: it is unset or the complete table, after every schedule -/
theorem C16_published_table_complete (src : Table) (g0 : Option Table) (hg0 : g0 = none ∨ g0 = some src)
    (keys : List Nat) (sched : List Nat) :
    (runSched (lazyStep src) (lazyInit g0 keys) sched).g = none ∨
      (runSched (lazyStep src) (lazyInit g0 keys) sched).g = some src :=
  (lazy_inv src g0 hg0 keys sched).1

/-- the sequential result: a first call running alone finishes with `src.lookup key` -/
theorem C16_publish_after_build_sequential (src : Table) (k : Nat) :
    (runSched (lazyStep src) (lazyInit none [k]) (List.replicate (src.length + 5) 0)).ts =
      [{ pc := .done (src.lookup k), key := k }] := by
  rw [lazy_solo]

/-- non-vacuity: three threads, an interleaved schedule, everybody finishes with the right answer -/
example : (runSched (lazyStep [(1, 10), (2, 20)]) (lazyInit none [1, 2, 3])
    [0, 1, 0, 1, 2, 0, 1, 0, 1, 2, 0, 1, 0, 1, 2, 0, 1, 2, 2, 2, 2, 2]).ts.map (·.pc) =
    [.done (some 10), .done (some 20), .done none] := by decide

/-- **pinned code**: `_scoring_objects = {}` is published before it is filled.  Thread 1 runs between thread
0's publication and its first insertion and is told that the (valid) key does not exist. -/
theorem publish_empty_then_fill_not_linearizable :
    ∃ (src : Table) (sched : List Nat),
      (runSched (lazyPinnedStep src) (lazyPinnedInit none [7, 7]) sched).ts[1]? =
        some { pc := .done none, key := 7 } ∧ src.lookup 7 = some 1 :=
  ⟨[(7, 1)], [0, 1, 1], by decide, by decide⟩

/-- assign after build (`sportshall_score._DB`, `AgeGrader._data`) -/
theorem C16_assign_after_build_linearizable (src : Table) (g0 : Option Table) (hg0 : g0 = none ∨ g0 = some src)
    (keys : List Nat) (sched : List Nat) (t : AssignT) (r : Option Nat)
    (ht : t ∈ (runSched (assignStep src) (assignInit g0 keys) sched).ts) (hd : t.pc = .done r) :
    r = src.lookup t.key := by
  simpa [assignTI, hd] using (runSched_inv _ _ _ (assignStep_inv src) (assignInit g0 keys) hg0
    (List.forall_mem_map.2 fun _ _ => trivial) sched).2 t ht

theorem C16_assign_after_build_sequential (src : Table) (k : Nat) :
    (runSched (assignStep src) (assignInit none [k]) (List.replicate 5 0)).ts =
      [{ pc := .done (src.lookup k), key := k }] := by
  cases hl : src.lookup k <;> simp [runSched, stepW_solo, assignInit, assignStep, hl]

/-- grader look-up (`calculate_factor`, `world_best` on the shared `ag2015/ag2023/aag`), row and age indices in locals -/
theorem C16_lookup_local_linearizable (G : Grader) (s0 : Scratch) (qs : List Query) (sched : List Nat)
    (t : LookT) (r : Nat)
    (ht : t ∈ (runSched (lookLocalStep G) (lookLocalInit s0 qs) sched).ts) (hd : t.pc = .done r) :
    r = lookSpec G t.q := by
  simpa [lookTI, hd] using (runSched_inv (lookLocalStep G) (fun _ => True) (fun _ t => lookTI G t)
    (fun s t _ ht => ⟨trivial, lookLocalStep_inv G s t ht, fun _ hu => hu⟩) (lookLocalInit s0 qs) trivial
    (List.forall_mem_map.2 fun _ _ => trivial) sched).2 t ht

theorem C16_lookup_local_sequential (G : Grader) (s0 : Scratch) (q : Query) :
    (runSched (lookLocalStep G) (lookLocalInit s0 [q]) [0, 0, 0]).ts = [{ pc := .done (lookSpec G q), q := q }] := by
  simp [runSched, stepW_solo, lookLocalInit, lookLocalStep, lookSpec]

/-- the pinned protocol gives the same single-threaded answer … -/
theorem shared_scratch_sequential (G : Grader) (s0 : Scratch) (q : Query) :
    (runSched (lookSharedStep G) (lookSharedInit s0 [q]) [0, 0, 0]).ts = [{ pc := .done (lookSpec G q), q := q }] := by
  simp [runSched, stepW_solo, lookSharedInit, lookSharedStep, lookSpec]

def demoGrader : Grader := { findRow := id, findAge := id, cell := fun fx ax => 10 * fx + ax }

/-- … but **pinned code** reads the row/age indices back from the shared object: thread 1's `find_age` and
`find_row_*` run between thread 0's and thread 0's read, and thread 0 silently returns thread 1's factor. -/
theorem shared_scratch_not_linearizable :
    ∃ (qs : List Query) (sched : List Nat),
      (runSched (lookSharedStep demoGrader) (lookSharedInit ⟨0, 0⟩ qs) sched).ts[0]? =
        some { pc := .done 34, q := ⟨1, 2⟩ } ∧ lookSpec demoGrader ⟨1, 2⟩ = 12 :=
  ⟨[⟨1, 2⟩, ⟨3, 4⟩], [0, 0, 1, 1, 0], by decide, by decide⟩

/-- the same schedule on the repaired protocol: both threads are right -/
example : (runSched (lookLocalStep demoGrader) (lookLocalInit ⟨0, 0⟩ [⟨1, 2⟩, ⟨3, 4⟩]) [0, 0, 1, 1, 0, 1]).ts.map (·.pc) =
    [.done 12, .done 34] := by decide

/-- bounded memo cache (`_schema_valid_cache`, `_valid_against_schema_cache`): any validation outcome `truth`, any
capacity, any (consistent) initial cache contents -/
theorem C16_cache_linearizable (truth : Nat → Bool) (cap : Nat) (c0 : Cache) (hc0 : ∀ p ∈ c0, p.2 = truth p.1)
    (keys : List Nat) (sched : List Nat) (t : CacheT) (r : Bool)
    (ht : t ∈ (runSched (cacheStep truth cap) (cacheInit c0 keys) sched).ts) (hd : t.pc = .done r) :
    r = truth t.key := by
  simpa [cacheTI, hd] using (runSched_inv (cacheStep truth cap) (cacheGI truth) (fun _ t => cacheTI truth t)
    (fun s t hg ht => ⟨(cacheStep_inv truth cap s t hg ht).1, (cacheStep_inv truth cap s t hg ht).2, fun _ hu => hu⟩)
    (cacheInit c0 keys) hc0 (List.forall_mem_map.2 fun _ _ => trivial) sched).2 t ht

/-- the cache never grows beyond its limit, whatever the schedule -/
theorem C16_cache_bounded (truth : Nat → Bool) (cap : Nat) (hcap : 1 ≤ cap) (c0 : Cache) (hc0 : c0.length ≤ cap)
    (keys : List Nat) (sched : List Nat) :
    (runSched (cacheStep truth cap) (cacheInit c0 keys) sched).g.length ≤ cap :=
  (runSched_inv (cacheStep truth cap) (fun c => c.length ≤ cap) (fun _ _ => True)
    (fun s t hg _ => ⟨cacheStep_bounded truth cap hcap s t hg, trivial, fun _ _ => trivial⟩)
    (cacheInit c0 keys) hc0 (fun _ _ => trivial) sched).1

theorem C16_cache_sequential (truth : Nat → Bool) (cap : Nat) (c0 : Cache) (hc0 : ∀ p ∈ c0, p.2 = truth p.1) (k : Nat) :
    (runSched (cacheStep truth cap) (cacheInit c0 [k]) [0, 0]).ts = [{ pc := .done (truth k), key := k }] := by
  cases hl : c0.lookup k with
  | none => simp [runSched, stepW_solo, cacheInit, cacheStep, hl]
  | some v => simp [runSched, stepW_solo, cacheInit, cacheStep, hl, ← hc0 _ (mem_of_lookup c0 k v hl)]

/-- non-vacuity: a full cache (limit 2), three threads, two misses and one hit -/
example : (runSched (cacheStep (fun k => k % 2 == 0) 2) (cacheInit [(9, false), (4, true)] [1, 2, 4])
    [0, 1, 2, 0, 1]).ts.map (·.pc) = [.done false, .done true, .done true] := by decide

/-- **pinned code**: `if t in cache:` and `return cache[t]` are two steps and eviction removes the newest
entry.  Thread 0 sees its key, thread 1 misses, evicts exactly that key, and thread 0's read raises
`KeyError` (`none`) although validation of key 1 yields `true`. -/
theorem cache_check_then_read_not_linearizable :
    ∃ (c0 : Cache) (sched : List Nat),
      (runSched (cachePinnedStep (fun _ => true) 2) (cachePinnedInit c0 [1, 2]) sched).ts[0]? =
        some { pc := .done none, key := 1 } ∧ c0.lookup 1 = some true :=
  ⟨[(9, true), (1, true)], [0, 1, 1, 0], by decide, by decide⟩

def C16_statement : Prop :=
  (∀ (src : Table) (g0 : Option Table), (g0 = none ∨ g0 = some src) → ∀ (keys sched : List Nat) (t : LazyT) (r : Option Nat),
      t ∈ (runSched (lazyStep src) (lazyInit g0 keys) sched).ts → t.pc = .done r → r = src.lookup t.key) ∧
  (∀ (src : Table) (g0 : Option Table), (g0 = none ∨ g0 = some src) → ∀ (keys sched : List Nat) (t : AssignT) (r : Option Nat),
      t ∈ (runSched (assignStep src) (assignInit g0 keys) sched).ts → t.pc = .done r → r = src.lookup t.key) ∧
  (∀ (G : Grader) (s0 : Scratch) (qs : List Query) (sched : List Nat) (t : LookT) (r : Nat),
      t ∈ (runSched (lookLocalStep G) (lookLocalInit s0 qs) sched).ts → t.pc = .done r → r = lookSpec G t.q) ∧
  (∀ (truth : Nat → Bool) (cap : Nat) (c0 : Cache), (∀ p ∈ c0, p.2 = truth p.1) → ∀ (keys sched : List Nat) (t : CacheT) (r : Bool),
      t ∈ (runSched (cacheStep truth cap) (cacheInit c0 keys) sched).ts → t.pc = .done r → r = truth t.key)

theorem C16 : C16_statement :=
  ⟨C16_publish_after_build_linearizable, C16_assign_after_build_linearizable, C16_lookup_local_linearizable,
   C16_cache_linearizable⟩

end AthlibVerif.Props.C16
