import AthlibVerif.Props.C02
import AthlibVerif.Lemmas.RankOrder
import AthlibVerif.Lemmas.Interleave
import AthlibVerif.Lemmas.CardLog
import AthlibVerif.Lemmas.CardCells
import AthlibVerif.Lemmas.RoundRobin
import AthlibVerif.Lemmas.Import
/-!
# C08 — High jump: replaying the log or the card, in any jumping order, rebuilds it

Every theorem here is for all histories, without a bound.
The interleaving clause (`C08_interleaving`) rests on two facts.  Two trials of different athletes commute from every
state with the invariants of reachable states (`trial_commute`: the second athlete was in and not done, so `_rank` in
between only re-numbered the places; places are recomputed from keys; the rest of `_rank` does not depend on the order
of equal keys).  And every rearrangement of a block of trials that keeps each athlete's own order is a chain of
exchanges of adjacent trials of different athletes (`swaps_of_same_threads`).
The card import is taken as the replay of a history: its round-robin order within a height is such a rearrangement,
and the passes it leaves out can be dropped by a simulation (Lemmas/EraseStep).
Not proved here (decided by tools/checks/c08.py on the implementation and on the model): the text level of the card
export/import round trip — what `to_matrix` writes and `from_matrix` parses; the theorems are about the call
sequences the import replays.
-/
namespace AthlibVerif.Props.C08
open AthlibVerif AthlibVerif.HJ AthlibVerif.Props.C02

/-- By `rfl` this is `HJ.run` of Lemmas/Interleave, and `runFrom {} ops` is `runOps ops` of Props/C02; `runFrom` is the
    name the statements of C08 use. -/
def runFrom (c : Comp) (ops : List Op) : Comp := ops.foldl (fun c op => (step c op).1) c

theorem runFrom_append (c : Comp) (a b : List Op) : runFrom c (a ++ b) = runFrom (runFrom c a) b :=
  run_append c a b

/-- "Accepted in full" is `acceptedFrom c ops = ops` in the statements of C08, `allOk c ops = true` in the lemma files
    (`accepted_eq_iff`).  `acceptedFrom` is also what the log holds (`C08_log_is_accepted_calls`). -/
def acceptedFrom (c : Comp) : List Op → List Op
  | [] => []
  | op :: rest => if (step c op).2 = .ok then op :: acceptedFrom (step c op).1 rest
                  else acceptedFrom (step c op).1 rest

/-- **The log is exactly the accepted calls.** -/
theorem C08_log_is_accepted_calls (ops : List Op) : ∀ c, (runFrom c ops).log = c.log ++ acceptedFrom c ops := by
  induction ops with
  | nil => intro c; simp [runFrom, acceptedFrom]
  | cons op rest ih =>
    intro c
    have h := ih (step c op).1
    simp only [runFrom, List.foldl_cons] at h ⊢
    rw [h, C02_log_only_accepted]
    simp only [acceptedFrom]
    split <;> simp

/-- **Replaying the recorded action log reproduces the competition** — every reachable state, the whole
    state (state, heights, cards, bests, places, log, and with them `trials`). -/
theorem C08_replay (c : Comp) (h : Reachable c) : runFrom {} c.log = c := by
  induction h with
  | init => rfl
  | step c op _ ih =>
    by_cases hok : (step c op).2 = .ok
    · rw [C02_log_only_accepted, if_pos hok, runFrom_append, ih]
      rfl
    · rw [C02_atomic c op hok]
      exact ih

/-- the same, for any call sequence (legal or not): only its accepted calls matter -/
theorem C08_replay_of_run (ops : List Op) : runFrom {} (runFrom {} ops).log = runFrom {} ops :=
  C08_replay (runOps ops) (reachable_runOps ops)

/-- refused calls can be dropped from a history without changing the outcome -/
theorem C08_refused_calls_are_noise (ops : List Op) : runFrom {} (acceptedFrom {} ops) = runFrom {} ops := by
  have h := C08_log_is_accepted_calls ops {}
  have h2 := C08_replay_of_run ops
  rw [h] at h2
  simpa using h2

/-- What the interleaving clause compares: state, heights and per athlete bib, place as the property `place` shows it
    (none without a clearance), best and card.  The log is left out: its order is what differs. -/
structure Obs where
  phase : Phase
  heights : List Int
  cards : List (Nat × Option Nat × Int × List (List Trial))
  deriving DecidableEq

def obs (c : Comp) : Obs :=
  { phase := c.phase, heights := c.heights,
    cards := c.jumpers.map (fun j => (j.bib, (if j.bestIdx.isSome then some j.place else none), j.best, j.card)) }

/-- The interleaving clause (proved as `C08_interleaving`).  `seg` holds trials only, so the rearrangement stays within
    one bar height; the hypotheses being symmetric in `seg` and `seg'`, the two sequences are accepted in full together
    or not at all. -/
def C08_interleaving_statement : Prop :=
  ∀ (pre seg seg' post : List Op),
    (∀ op ∈ seg, ∃ b t, op = .trial b t) → seg.Perm seg' →
    (∀ b, seg.filter (fun op => match op with | .trial b' _ => b' == b | _ => false) =
          seg'.filter (fun op => match op with | .trial b' _ => b' == b | _ => false)) →
    acceptedFrom {} (pre ++ seg) = pre ++ seg →
    (acceptedFrom {} (pre ++ seg') = pre ++ seg' ∧
     obs (runFrom {} (pre ++ seg ++ post)) = obs (runFrom {} (pre ++ seg' ++ post)))

theorem accepted_length (ops : List Op) : ∀ c, (acceptedFrom c ops).length ≤ ops.length := by
  induction ops with
  | nil => intro c; simp [acceptedFrom]
  | cons op rest ih =>
    intro c
    simp only [acceptedFrom]
    split
    · simp only [List.length_cons]; have := ih (step c op).1; omega
    · simp only [List.length_cons]; have := ih (step c op).1; omega

theorem accepted_eq_iff (ops : List Op) : ∀ c, acceptedFrom c ops = ops ↔ allOk c ops = true := by
  induction ops with
  | nil => intro c; simp [acceptedFrom, allOk]
  | cons op rest ih =>
    intro c
    simp only [acceptedFrom, allOk]
    by_cases hok : (step c op).2 = .ok
    · simp only [hok, if_true, List.cons.injEq, true_and, beq_self_eq_true, Bool.true_and]
      exact ih _
    · simp only [hok, if_false]
      constructor
      · intro h
        have := accepted_length rest (step c op).1
        rw [h] at this
        simp only [List.length_cons] at this
        omega
      · intro h
        have : ((step c op).2 == Outcome.ok) = false := by simpa using hok
        simp [this] at h

theorem obs_of_same (a b : Comp) (h : SameButRanked a b) : obs a = obs b := by
  unfold obs
  rw [h.1, h.2.1, h.2.2.1]

/-- **The tie-break of `_rankj` on the previous position is unobservable**: of two competitions that differ only in the
    order of `ranked_jumpers`, any call sequence is accepted in full by both or by neither, and leaves them observably
    equal (`C08_ranked_order_unobservable_obs`). -/
theorem C08_ranked_order_unobservable (a b : Comp) (hw : WF a) (h : SameButRanked a b) (ops : List Op) :
    acceptedFrom a ops = ops ↔ acceptedFrom b ops = ops := by
  rw [accepted_eq_iff, accepted_eq_iff, (same_run ops a b hw h).1]

theorem C08_ranked_order_unobservable_obs (a b : Comp) (hw : WF a) (h : SameButRanked a b) (ops : List Op) :
    obs (runFrom a ops) = obs (runFrom b ops) :=
  obs_of_same _ _ (same_run ops a b hw h).2

/-- A block accepted in full may be rearranged by exchanges (`Swaps`): still accepted in full, and whatever follows shows
    the same.  `C08_interleaving` and `C08_round_robin_import` are each one call of this. -/
theorem swaps_obs {pre seg seg' post : List Op} (hsw : Swaps seg seg') (hacc : acceptedFrom {} (pre ++ seg) = pre ++ seg) :
    acceptedFrom {} (pre ++ seg') = pre ++ seg' ∧
    obs (runFrom {} (pre ++ seg ++ post)) = obs (runFrom {} (pre ++ seg' ++ post)) := by
  rw [accepted_eq_iff] at hacc ⊢
  obtain ⟨hok', hsame⟩ := swaps_run {} good_init (hsw.append_left pre) hacc
  refine ⟨hok', ?_⟩
  rw [runFrom_append, runFrom_append _ _ post]
  exact obs_of_same _ _ (same_run post _ _ (good_init.run _).wf hsame).2

theorem thread_eq_filter (b : Nat) (l : List Op) :
    thread b l = l.filter (fun op => match op with | Op.trial b' _ => b' == b | _ => false) := by
  unfold thread
  congr 1
  funext op
  cases op with
  | add _ => rfl
  | bar _ => rfl
  | trial b' _ => simp [bibOf]

/-- **The order in which different athletes take their trials does not matter** (`C08_interleaving_statement`):
    after any history `pre`, if a block of trials is accepted in full, then so is every rearrangement of it that keeps
    each athlete's own order, and whatever follows (`post`) ends in the same state, heights, cards, bests and places. -/
theorem C08_interleaving : C08_interleaving_statement := by
  intro pre seg seg' post htr hperm hthreads hacc
  refine swaps_obs (swaps_of_same_threads seg seg' htr hperm (fun b => ?_)) hacc
  rw [thread_eq_filter, thread_eq_filter]
  exact hthreads b

theorem cardLog_reachable (c : Comp) (h : Reachable c) : LogBibs c ∧ CardLog c :=
  h.of_accepts (P := fun c => LogBibs c ∧ CardLog c) ⟨(fun b t hm => by cases hm), (fun j hj => by cases hj)⟩
    (fun c _ _ hr ih ha => ⟨ih.1.accepts (wf_reachable c hr) ha, ih.2.accepts (wf_reachable c hr) ih.1 ha⟩)

/-- **The cards are the log, athlete by athlete**: in every reachable competition the marks on an athlete's card,
    read left to right across the heights, are exactly that athlete's accepted trials in the order of the action log
    (so `trials`, which the library derives from the log, and the cards cannot disagree). -/
theorem C08_cards_are_the_log (c : Comp) (h : Reachable c) (j : Jumper) (hj : j ∈ c.jumpers) :
    j.card.flatten = marksOf j.bib c.log :=
  (cardLog_reachable c h).2 j hj

theorem cells_reachable (c : Comp) (h : Reachable c) : BarsLog c ∧ CardCells c :=
  h.of_accepts (P := fun c => BarsLog c ∧ CardCells c) ⟨rfl, (fun j hj => by cases hj)⟩ (fun c _ _ hr ih ha =>
    ⟨ih.1.accepts ha, ih.2.accepts (wf_reachable c hr) (allFlags_reachable c hr) (cardLog_reachable c hr).1 ih.1 ha⟩)

/-- **Cell by cell**: in every reachable competition an athlete's card, padded with empty cells to the number of bars so
    far (how `from_matrix` reads the row of `to_matrix`), holds in the column of each bar exactly the athlete's accepted
    trials made between that bar call and the next one, in order — and there are as many bars as accepted bar calls. -/
theorem C08_cells_are_the_log (c : Comp) (h : Reachable c) (j : Jumper) (hj : j ∈ c.jumpers) :
    padCard j.card c.heights.length = cellsOf j.bib c.log ∧ c.heights.length = bars c.log :=
  ⟨(cells_reachable c h).2 j hj, (cells_reachable c h).1⟩

/-- … in particular, cell `i` of the card itself (an absent trailing cell reads as empty) -/
theorem C08_cell (c : Comp) (h : Reachable c) (j : Jumper) (hj : j ∈ c.jumpers) (i : Nat) :
    j.card.getD i [] = (cellsOf j.bib c.log).getD i [] := by
  rw [← (C08_cells_are_the_log c h j hj).1, padCard_getD]

/-- every trial in the log was made by a registered athlete -/
theorem C08_log_bibs_registered (c : Comp) (h : Reachable c) (b : Nat) (t : Trial) (hm : Op.trial b t ∈ c.log) :
    (c.find b).isSome := by
  have := (cardLog_reachable c h).1 b t hm
  obtain ⟨j, hj, rfl⟩ := List.mem_map.1 this
  rw [find_of_mem c (wf_reachable c h).1 j hj]; rfl

/-- **The card import's replay order is harmless**: a block of trials at one height, replayed "attempt 1 of
    everybody in card order, then attempt 2, then attempt 3" (`roundRobin`, the loop of `from_matrix`) instead of in
    the recorded order, is accepted in full whenever the recorded order was, and whatever follows ends in the same
    state, heights, cards, bests and places. -/
theorem C08_round_robin_import (pre seg post : List Op) (order : List Nat) (hn : order.Nodup)
    (htr : ∀ op ∈ seg, ∃ b t, op = Op.trial b t)
    (hin : ∀ b t, Op.trial b t ∈ seg → b ∈ order)
    (hlen : ∀ b, (marksOf b seg).length ≤ 3)
    (hacc : acceptedFrom {} (pre ++ seg) = pre ++ seg) :
    acceptedFrom {} (pre ++ roundRobin order (fun b => marksOf b seg)) = pre ++ roundRobin order (fun b => marksOf b seg) ∧
    obs (runFrom {} (pre ++ seg ++ post)) = obs (runFrom {} (pre ++ roundRobin order (fun b => marksOf b seg) ++ post)) :=
  -- `block_swaps` takes a block (bar height, trials) and reads only the trials: the height 0 stands for any
  swaps_obs (block_swaps order hn (0, seg) ⟨htr, hin, hlen⟩) hacc

/-- **A pass is only a mark** (every reachable competition): an accepted pass leaves state, heights, bests, shown
    places and every card — pass marks and empty cells at the end aside — exactly as they were.  This is the
    "explicit pass marks aside" of the card round trip: the card import drops `-`. -/
theorem C08_pass_is_only_a_mark (c : Comp) (h : Reachable c) (b : Nat) (hok : (step c (.trial b .p)).2 = .ok) :
    obsP (step c (.trial b .p)).1 = obsP c := by
  obtain ⟨hi, c', _, hs⟩ := sim_reachable c h
  rw [← sim_obsP _ _ (sim_pass c c' hi hs b hok), sim_obsP _ _ hs]

/-- **The passes can be dropped from a history**: if every call of a history is accepted, so is every call of the
    history without its passes, and the two competitions show the same — state, heights, bests, places and cards,
    pass marks and empty cells at the end aside.  (The card import never replays a `-`; a pass changes who may still
    jump at the height, so that the rest of the history is still accepted without it is not a triviality.) -/
theorem C08_passes_can_be_dropped (ops : List Op) (hacc : acceptedFrom {} ops = ops) :
    acceptedFrom {} (ops.filter notPass) = ops.filter notPass ∧
    obsP (runFrom {} (ops.filter notPass)) = obsP (runFrom {} ops) := by
  rw [accepted_eq_iff] at hacc ⊢
  obtain ⟨h1, h2⟩ := erase_run ops {} {} einv_init good_init.wf sim_init hacc
  exact ⟨h1, sim_obsP _ _ h2⟩

/-- **The card import, whole competitions**: a history "registrations, then for each bar the bar and the trials
    taken at it", accepted in full, and its import "registrations, then for each bar the bar and attempt 1, then 2,
    then 3 of everybody in card order, passes left out" (the loop of `from_matrix`, with the cells of the card being
    each athlete's marks at that bar): the import is accepted in full as well and ends showing the same — state,
    heights, bests, places and cards, pass marks aside.  `order` is any duplicate-free list of bibs that contains
    every athlete who jumped; `BlockOK` also asks for at most three marks of an athlete at a bar, as many as the import
    reads. -/
theorem C08_card_import (adds : List Op) (hadds : ∀ op ∈ adds, ∃ b, op = Op.add b) (order : List Nat) (hn : order.Nodup)
    (bs : List Block) (hb : ∀ b ∈ bs, BlockOK order b) (hacc : acceptedFrom {} (adds ++ flat bs) = adds ++ flat bs) :
    acceptedFrom {} (adds ++ imported order bs) = adds ++ imported order bs ∧
    obsP (runFrom {} (adds ++ imported order bs)) = obsP (runFrom {} (adds ++ flat bs)) := by
  rw [accepted_eq_iff] at hacc ⊢
  exact import_blocks adds hadds order hn bs hb hacc

/-! non-vacuity (kernel-evaluated tests, not the theorem): a history with passes, one of them after a failure, is accepted
    in full, and so is its import — another call sequence — with the same result sheet -/
def sampleAdds : List Op := [.add 1, .add 2, .add 3]
def sampleBlocks : List Block :=
  [(100, [.trial 1 .p, .trial 2 .o, .trial 3 .x, .trial 3 .o]),
   (105, [.trial 3 .x, .trial 1 .x, .trial 2 .x, .trial 1 .p, .trial 2 .x, .trial 3 .x, .trial 3 .x, .trial 2 .x]),
   (110, [.trial 1 .x, .trial 1 .x])]
example : acceptedFrom {} (sampleAdds ++ flat sampleBlocks) = sampleAdds ++ flat sampleBlocks := by decide +kernel
example : acceptedFrom {} (sampleAdds ++ imported [1, 2, 3] sampleBlocks) = sampleAdds ++ imported [1, 2, 3] sampleBlocks := by
  decide +kernel
example : imported [1, 2, 3] sampleBlocks ≠ flat sampleBlocks := by decide +kernel
-- `Decidable` of an equation at the type of `obsP` (products and lists nested down to `List (List Trial)`) is an instance
-- larger than the default limit of 128, and than 256; each of its components is within the default
set_option synthInstance.maxSize 512 in
example : obsP (runFrom {} (sampleAdds ++ imported [1, 2, 3] sampleBlocks)) = obsP (runFrom {} (sampleAdds ++ flat sampleBlocks)) := by
  decide +kernel

/-! non-vacuity (kernel-evaluated): of a history with refused calls the log holds the accepted ones only -/
example : (runFrom {} [.add 1, .bar 0, .bar 105, .trial 1 .o, .trial 1 .o, .add 2]).log =
    [.add 1, .bar 105, .trial 1 .o] := by decide

end AthlibVerif.Props.C08
