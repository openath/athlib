import Mathlib.Data.Rat.Floor
import Mathlib.Tactic.FieldSimp
import AthlibVerif.Lemmas.Junior
import AthlibVerif.Oblig.C11.Tables
import AthlibVerif.Oblig.C11.Keys
import AthlibVerif.Oblig.C11.Reach
/-!
# C11 — Table-based junior scoring reproduces the published tables exactly

The models of `Model/Junior.lean` compute in integers on the mark in hundredths.  Here each is shown to be
the exact-arithmetic (ℚ) evaluation of the published linear formula or table reading, for ALL parameters and
marks; the `1e-8` / `1e-6` fuzz terms of the code cannot cross an integer for the regenerated multipliers; and
the regenerated tables are ordered, keyed by valid event codes and reachable row by row (kernel-evaluated
obligations in `Oblig/C11`).  That the Python functions equal these models on every grid mark and input form
is the correspondence (`tools/checks/c11.py`): floats never enter a model.
-/
namespace AthlibVerif.Props.C11
open AthlibVerif AthlibVerif.Junior

theorem floorNat_eq (n : Int) (d : Nat) : (floorNat n d : Int) = max 0 ⌊(n : ℚ) / (d : ℚ)⌋ := by
  unfold floorNat
  rw [Rat.floor_intCast_div_natCast, Int.toNat_eq_max, max_comm]

/-- every Tyrving evaluator: `c` points at the base mark plus `m / S` per hundredth of distance `D` from it -/
theorem floorNat_affine_eq (c D : Int) (m S : Nat) (hS : 0 < S) :
    (floorNat (c * S + D * m) S : Int) = max 0 ⌊(c : ℚ) + D * ((m : ℚ) / S)⌋ := by
  have hS' : (S : ℚ) ≠ 0 := by exact_mod_cast hS.ne'
  rw [floorNat_eq]
  congr 2
  push_cast
  field_simp

/-- the unit of a race: one multiplier per 0.01 s up to 500 m, per 0.1 s beyond -/
def raceUnit (dist : Nat) : ℚ := if dist ≤ 500 then 1 / 100 else 1 / 10

/-- **Tyrving, races and jumps.**  With multiplier `m = mN / S`, base performance `b = B / 100` and mark
    `v = k / 100` (plus the hand-timing increment by distance):
    race points are `max 0 ⌊1000 + (b − v) · m / unit⌋`, jump points `max 0 ⌊1000 + m · (v − b) · 100⌋`. -/
theorem C11_tyrving_formula (S dist mN B k : Nat) (manual : Bool) (hS : 0 < S) :
    (Tyrving.race S dist mN B k manual : Int) =
      max 0 ⌊(1000 : ℚ) + ((B : ℚ) / 100 - ((k : ℚ) + (if manual then (Tyrving.manualInc dist : ℚ) else 0)) / 100)
        * (((mN : ℚ) / S) / raceUnit dist)⌋ ∧
    (Tyrving.jump S mN B k : Int) = max 0 ⌊(1000 : ℚ) + ((mN : ℚ) / S) * ((k : ℚ) / 100 - (B : ℚ) / 100) * 100⌋ := by
  constructor
  · have hd : 0 < S * Tyrving.raceDiv dist := Nat.mul_pos hS (by unfold Tyrving.raceDiv; split <;> omega)
    unfold Tyrving.race
    simp only
    rw [← Int.natCast_mul, floorNat_affine_eq 1000 _ mN _ hd]
    congr 2
    -- one multiplier per `raceUnit`: `1 / (S·1) = (1/100) / S / (1/100)` and `1 / (S·10) = (1/100) / S / (1/10)`
    unfold raceUnit Tyrving.raceDiv
    by_cases h5 : dist ≤ 500
    · cases manual <;> simp only [h5, if_true, if_false, Bool.false_eq_true] <;> push_cast <;> ring
    · cases manual <;> simp only [h5, if_true, if_false, Bool.false_eq_true] <;> push_cast <;> ring
  · unfold Tyrving.jump
    rw [floorNat_affine_eq 1000 _ mN S hS]
    congr 2
    push_cast
    ring

/-- **Tyrving, pole vault and throws.**  `d₀ = 100 (v − L₀)`, `d₁ = 100 (v − L₁)`:
    `1000 + d₀ m₀` at or above the first level, `1000 + d₀ m₁` between the levels, `P₂ + d₁ m₂` at or below the second -/
theorem C11_tyrving_stav_formula (S m0 m1 m2 L0 L1 P2 k : Nat) (hS : 0 < S) :
    (Tyrving.stav S m0 m1 m2 L0 L1 P2 k : Int) =
      max 0 ⌊(if (L0 : ℚ) / 100 ≤ (k : ℚ) / 100 then (1000 : ℚ) + 100 * ((k : ℚ) / 100 - (L0 : ℚ) / 100) * ((m0 : ℚ) / S)
              else if (L1 : ℚ) / 100 < (k : ℚ) / 100 then 1000 + 100 * ((k : ℚ) / 100 - (L0 : ℚ) / 100) * ((m1 : ℚ) / S)
              else (P2 : ℚ) + 100 * ((k : ℚ) / 100 - (L1 : ℚ) / 100) * ((m2 : ℚ) / S))⌋ := by
  unfold Tyrving.stav
  simp only
  -- the two comparisons of levels are the model's comparisons of hundredths
  have e0 : ((L0 : ℚ) / 100 ≤ (k : ℚ) / 100) ↔ (0 : Int) ≤ (k : Int) - L0 := by
    rw [div_le_div_iff_of_pos_right (by norm_num : (0 : ℚ) < 100), Nat.cast_le, sub_nonneg, Nat.cast_le]
  have e1 : ((L1 : ℚ) / 100 < (k : ℚ) / 100) ↔ (0 : Int) < (k : Int) - L1 := by
    rw [div_lt_div_iff_of_pos_right (by norm_num : (0 : ℚ) < 100), Nat.cast_lt, sub_pos, Nat.cast_lt]
  simp only [e0, e1]
  split
  · rw [floorNat_affine_eq 1000 _ m0 S hS]
    congr 2
    push_cast
    ring
  · split
    · rw [floorNat_affine_eq 1000 _ m1 S hS]
      congr 2
      push_cast
      ring
    · rw [floorNat_affine_eq P2 _ m2 S hS]
      congr 2
      push_cast
      ring

/-- **QuadKids.**  `⌊δ / increment + 10⌋` clamped to 10…100, where `δ` is how much the mark beats the 10-point
    mark and the increment is `incN / incD` hundredths -/
theorem C11_qkids_formula (incN incD base k : Nat) (run : Bool) (hN : 0 < incN) (hD : 0 < incD) :
    Qkids.raw incN incD run base k =
      ⌊((if run then (base : ℚ) - k else (k : ℚ) - base) / 100) / (((incN : ℚ) / incD) / 100) + 10⌋ ∧
    (Qkids.points incN incD run base k : Int) = max 10 (min (Qkids.raw incN incD run base k) 100) := by
  have hN' : (incN : ℚ) ≠ 0 := by exact_mod_cast hN.ne'
  have hD' : (incD : ℚ) ≠ 0 := by exact_mod_cast hD.ne'
  refine ⟨?_, by unfold Qkids.points; omega⟩
  unfold Qkids.raw
  simp only
  -- both directions at once: the margin `δ` is an integer, and `⌊δ·incD / incN⌋` is the integer division
  have hδ : (if run then (base : ℚ) - k else (k : ℚ) - base) =
      ((if run then (base : Int) - k else (k : Int) - base : Int) : ℚ) := by
    cases run <;> simp
  rw [hδ]
  generalize (if run then (base : Int) - k else (k : Int) - base) = δ
  have e : (δ : ℚ) / 100 / ((incN : ℚ) / incD / 100) + 10 = ((δ * incD : Int) : ℚ) / (incN : ℚ) + ((10 : Int) : ℚ) := by
    push_cast
    field_simp
  rw [e, Int.floor_add_intCast, Rat.floor_intCast_div_natCast]

/-- **Sportshall, inside the table**: the result is the points of a row the mark reaches (or 0
    when it reaches none), and no row the mark reaches carries more points — the greatest row reached. -/
theorem C11_sportshall_spec (high : Bool) (rows : List (Nat × Nat)) (k : Nat) :
    (∀ r ∈ rows, Sportshall.reach high r.2 k = true → r.1 ≤ Sportshall.lookupBest high rows k) ∧
    ((Sportshall.lookupBest high rows k = 0 ∧ ∀ r ∈ rows, Sportshall.reach high r.2 k = true → r.1 = 0) ∨
      ∃ r ∈ rows, Sportshall.reach high r.2 k = true ∧ r.1 = Sportshall.lookupBest high rows k) :=
  ⟨fun r hr hk => Sportshall.lookupBest_ge high rows k r hr hk, Sportshall.lookupBest_mem high rows k⟩

/-- **Sportshall, beyond the table**: the best row's points plus `incPts` for every whole increment contained
    in the excess (`s` whole increments: `s · inc ≤ excess < (s+1) · inc`, `inc = incN/incD` hundredths) -/
theorem C11_sportshall_beyond (e : ShEvent) (k maxP maxT : Nat) (hl : e.rows.getLast? = some (maxP, maxT))
    (hb : if e.high then maxT < k else k < maxT) (hN : 0 < e.incN) :
    ∃ s, Sportshall.points e k = maxP + s * e.incPts ∧
      s * e.incN ≤ (if e.high then k - maxT else maxT - k) * e.incD ∧
      (if e.high then k - maxT else maxT - k) * e.incD < (s + 1) * e.incN := by
  rw [Sportshall.points_eq e k _ _ hl, if_pos hb]
  have hsteps : ∀ x, Sportshall.steps e.incN e.incD x * e.incN ≤ x * e.incD ∧
      x * e.incD < (Sportshall.steps e.incN e.incD x + 1) * e.incN := by
    intro x
    unfold Sportshall.steps
    rw [if_neg (by omega)]
    refine ⟨Nat.div_mul_le_self _ _, ?_⟩
    have := Nat.lt_mul_div_succ (x * e.incD) hN
    rw [Nat.mul_comm e.incN] at this; exact this
  exact ⟨_, rfl, hsteps _⟩

/-- a row is returned for its own threshold as soon as no row reached there carries more points -/
theorem C11_sportshall_row_reachable (high : Bool) (rows : List (Nat × Nat)) (r : Nat × Nat) (hr : r ∈ rows)
    (hno : ∀ r' ∈ rows, Sportshall.reach high r'.2 r.2 = true → r'.1 ≤ r.1) :
    Sportshall.lookupBest high rows r.2 = r.1 :=
  Sportshall.lookupBest_self high rows r hr hno

/-- **Bulgarian.**  Worse than `min`: 0; better than `max`: 150; otherwise the points of the run containing
    the mark — and in a table that passed the chain check every mark of every run is answered by that run. -/
theorem C11_bulgarian_spec (t : BgTable) (k : Nat) :
    ((if t.timed then t.minV < k else k < t.minV) → Bulgarian.points t k = some 0) ∧
    (¬ (if t.timed then t.minV < k else k < t.minV) → (if t.timed then k < t.maxV else t.maxV < k) →
        Bulgarian.points t k = some 150) ∧
    (¬ (if t.timed then t.minV < k else k < t.minV) → ¬ (if t.timed then k < t.maxV else t.maxV < k) →
        (∀ p, Bulgarian.points t k = some p → ∃ r ∈ t.runs, r.1 ≤ k ∧ k ≤ r.2.1 ∧ r.2.2 = p) ∧
        (Bulgarian.chainB t.timed t.runs = true → ∀ r ∈ t.runs, r.1 ≤ k → k ≤ r.2.1 → Bulgarian.points t k = some r.2.2)) := by
  rw [Bulgarian.points_eq]
  refine ⟨fun h => by rw [if_pos h], fun h h' => by rw [if_neg h, if_pos h'], fun h h' => ?_⟩
  rw [if_neg h, if_neg h']
  exact ⟨fun p hp => Bulgarian.lookup_some _ _ _ hp,
    fun hc r hr h1 h2 => Bulgarian.lookup_of_mem _ _ k r (Bulgarian.ordered_of_chainB _ _ hc) hr h1 h2⟩

/-- **Fuzz is harmless.**  On a grid whose exact values have denominator `d`, adding any `0 ≤ ε < 1/d` before
    taking the floor changes nothing: the fractional part of `n/d` is at most `1 − 1/d`. -/
theorem C11_fuzz_harmless (n : Int) (d : Nat) (ε : ℚ) (hd : 0 < d) (h0 : 0 ≤ ε) (h1 : ε < 1 / (d : ℚ)) :
    ⌊(n : ℚ) / (d : ℚ) + ε⌋ = ⌊(n : ℚ) / (d : ℚ)⌋ := by
  have hdq : (0 : ℚ) < d := by exact_mod_cast hd
  rw [Rat.floor_intCast_div_natCast, Int.floor_eq_iff]
  -- `n = d·q + r` with `0 ≤ r ≤ d − 1`: so `n/d = q + r/d` with `0 ≤ r/d` and `r/d + 1/d ≤ 1`
  have hr : n % (d : Int) + 1 ≤ d := Int.emod_lt_of_pos n (by exact_mod_cast hd)
  have hr0 : 0 ≤ n % (d : Int) := Int.emod_nonneg n (by exact_mod_cast hd.ne')
  have hq : (n : ℚ) / d = ((n / (d : Int) : Int) : ℚ) + ((n % (d : Int) : Int) : ℚ) / d := by
    have : (n : ℚ) = d * ((n / (d : Int) : Int) : ℚ) + ((n % (d : Int) : Int) : ℚ) := by
      exact_mod_cast (Int.mul_ediv_add_emod n d).symm
    rw [this, add_div, mul_div_cancel_left₀ _ hdq.ne']
  have hf0 : (0 : ℚ) ≤ ((n % (d : Int) : Int) : ℚ) / d := div_nonneg (by exact_mod_cast hr0) hdq.le
  have hf1 : ((n % (d : Int) : Int) : ℚ) / d + 1 / d ≤ 1 := by
    rw [← add_div, div_le_one hdq]
    exact_mod_cast hr
  rw [hq]
  constructor <;> linarith

/-- the fuzz terms of the code are `1/N` with `N` beyond every denominator of the grid -/
theorem fuzz_harmless_of_lt (n : Int) (d N : Nat) (hd : 0 < d) (hN : d < N) :
    ⌊(n : ℚ) / (d : ℚ) + 1 / (N : ℚ)⌋ = ⌊(n : ℚ) / (d : ℚ)⌋ :=
  C11_fuzz_harmless n d _ hd (by positivity)
    (one_div_lt_one_div_of_lt (by exact_mod_cast hd) (by exact_mod_cast hN))

/-- Tyrving's `1e-8`: every exact value has denominator `S · 1` or `S · 10`, far below `10⁸` -/
theorem C11_tyrving_fuzz (n : Int) (dist : Nat) :
    ⌊(n : ℚ) / ((Gen.tyrvingScale * Tyrving.raceDiv dist : Nat) : ℚ) + 1 / 10 ^ 8⌋ =
      ⌊(n : ℚ) / ((Gen.tyrvingScale * Tyrving.raceDiv dist : Nat) : ℚ)⌋ := by
  have hS : 0 < Gen.tyrvingScale ∧ Gen.tyrvingScale * 10 < 10 ^ 8 := by decide +kernel
  have hdv : 0 < Tyrving.raceDiv dist ∧ Tyrving.raceDiv dist ≤ 10 := by unfold Tyrving.raceDiv; split <;> omega
  have := fuzz_harmless_of_lt n _ (10 ^ 8) (Nat.mul_pos hS.1 hdv.1)
    (Nat.lt_of_le_of_lt (Nat.mul_le_mul_left _ hdv.2) hS.2)
  exact_mod_cast this

/-- QuadKids' `1e-6`: every exact value `δ·incD / incN + 10` has denominator `incN < 10⁶` -/
theorem C11_qkids_fuzz (r : QkRow) (hr : r ∈ Gen.qkidsTables) (n : Int) :
    ⌊(n : ℚ) / (r.incN : ℚ) + 1 / 10 ^ 6⌋ = ⌊(n : ℚ) / (r.incN : ℚ)⌋ := by
  have hall : Gen.qkidsTables.all (fun r => decide (0 < r.incN) && decide (r.incN < 10 ^ 6)) = true := by decide +kernel
  have := List.all_eq_true.1 hall r hr
  simp only [Bool.and_eq_true, decide_eq_true_eq] at this
  exact_mod_cast fuzz_harmless_of_lt n _ (10 ^ 6) this.1 this.2

/-- every regenerated table is well formed and ordered: better marks, more points -/
theorem C11_tables_ordered :
    (decide (0 < Gen.tyrvingScale) && Gen.tyrvingTables.all Oblig.C11.tyRowOK) = true ∧
    (Gen.qkidsTables.all Oblig.C11.qkRowOK = true ∧ Gen.qkidsTables.all Oblig.C11.qkConsistent = true) ∧
    Gen.sportshallTables.all Oblig.C11.shEventOK = true ∧
    Gen.bulgarianTables.all Oblig.C11.bgTableOK = true :=
  ⟨Oblig.C11.tyrving_tables_ok, ⟨Oblig.C11.qkids_tables_ok, Oblig.C11.qkids_tables_consistent⟩,
   Oblig.C11.sportshall_tables_ok, Oblig.C11.bulgarian_tables_ok⟩

/-- every table key is accepted by the regenerated `PAT_EVENT_CODE` -/
theorem C11_keys_valid : Oblig.C11.allKeys.all Oblig.C11.validCode = true := Oblig.C11.keys_valid

/-- every row can be returned: Sportshall rows at their own threshold (the duplicated 800 m thresholds being the
    recorded finding), every tabulated Tyrving (row, age) yields points; Bulgarian runs by `C11_bulgarian_spec` -/
theorem C11_rows_reachable :
    Gen.sportshallTables.all (fun e => e.rows.all (Oblig.C11.shRowReachable e)) = true ∧
    Gen.tyrvingTables.all Oblig.C11.tyAgesReach = true :=
  ⟨Oblig.C11.sportshall_rows_reachable, Oblig.C11.tyrving_rows_reachable⟩

/-- The clauses gathered: the Tyrving race / jump and QuadKids formulas and the Sportshall look-up for all
    parameters, then the obligations over the regenerated tables.  The three-piece formula, the beyond-table steps,
    the Bulgarian clause and the fuzz theorems stand above and are not repeated here. -/
def C11_statement : Prop :=
  (∀ S dist mN B k manual, 0 < S →
    (Tyrving.race S dist mN B k manual : Int) =
      max 0 ⌊(1000 : ℚ) + ((B : ℚ) / 100 - ((k : ℚ) + (if manual then (Tyrving.manualInc dist : ℚ) else 0)) / 100)
        * (((mN : ℚ) / S) / raceUnit dist)⌋ ∧
    (Tyrving.jump S mN B k : Int) = max 0 ⌊(1000 : ℚ) + ((mN : ℚ) / S) * ((k : ℚ) / 100 - (B : ℚ) / 100) * 100⌋) ∧
  (∀ incN incD base k run, 0 < incN → 0 < incD →
    Qkids.raw incN incD run base k =
      ⌊((if run then (base : ℚ) - k else (k : ℚ) - base) / 100) / (((incN : ℚ) / incD) / 100) + 10⌋ ∧
    (Qkids.points incN incD run base k : Int) = max 10 (min (Qkids.raw incN incD run base k) 100)) ∧
  (∀ high rows k,
    (∀ r ∈ rows, Sportshall.reach high r.2 k = true → r.1 ≤ Sportshall.lookupBest high rows k) ∧
    ((Sportshall.lookupBest high rows k = 0 ∧ ∀ r ∈ rows, Sportshall.reach high r.2 k = true → r.1 = 0) ∨
      ∃ r ∈ rows, Sportshall.reach high r.2 k = true ∧ r.1 = Sportshall.lookupBest high rows k)) ∧
  ((decide (0 < Gen.tyrvingScale) && Gen.tyrvingTables.all Oblig.C11.tyRowOK) = true ∧
    (Gen.qkidsTables.all Oblig.C11.qkRowOK = true ∧ Gen.qkidsTables.all Oblig.C11.qkConsistent = true) ∧
    Gen.sportshallTables.all Oblig.C11.shEventOK = true ∧
    Gen.bulgarianTables.all Oblig.C11.bgTableOK = true) ∧
  Oblig.C11.allKeys.all Oblig.C11.validCode = true ∧
  (Gen.sportshallTables.all (fun e => e.rows.all (Oblig.C11.shRowReachable e)) = true ∧
    Gen.tyrvingTables.all Oblig.C11.tyAgesReach = true)

set_option linter.dupNamespace false in
theorem C11 : C11_statement :=
  ⟨fun S dist mN B k manual hS => C11_tyrving_formula S dist mN B k manual hS,
   fun incN incD base k run hN hD => C11_qkids_formula incN incD base k run hN hD,
   fun high rows k => C11_sportshall_spec high rows k,
   C11_tables_ordered, C11_keys_valid, C11_rows_reachable⟩

/-! ### non-vacuity / examples on the regenerated tables (kernel-evaluated) -/
example : Tyrving.score Gen.tyrvingScale Gen.tyrvingTables "F" 15 "100" 1324 false = .pts 945 := by decide +kernel
example : Tyrving.score Gen.tyrvingScale Gen.tyrvingTables "F" 15 "100" 1300 true = .pts 945 := by decide +kernel
example : Tyrving.score Gen.tyrvingScale Gen.tyrvingTables "M" 12 "PV" 250 false = .pts 965 := by decide +kernel
example : Qkids.score Gen.qkidsTables Gen.qkidsTypeMap "QuadKids Start" "50" 1000 = .pts 30 := by decide +kernel
example : Sportshall.score Gen.sportshallTables "SLJ" 300 = .pts 90 := by decide +kernel
example : Bulgarian.score Gen.bulgarianTables "U16" "M" "60" 946 = .pts 35 := by decide +kernel

/-! ### the pinned defects, as kernel-checked facts about the pinned behaviour

`'0.' + perf` reads the vertical-jump row `4` (cm) as 0.4 m; the table then is not ordered: -/
example : Oblig.C11.shSorted true [(1, 40), (2, 60), (3, 70), (4, 80), (5, 90), (6, 10), (7, 11)] = false := by decide
/-- and with the pinned Bulgarian girls' 600 m band (98 points between 102 and 101) the chain check fails -/
example : Bulgarian.chainB true [(9801, 9830, 102), (9831, 9850, 98), (9851, 9860, 101)] = false := by decide

end AthlibVerif.Props.C11
