import AthlibVerif.Lemmas.Exact
import AthlibVerif.Lemmas.Junior
import AthlibVerif.Oblig.C01.Table
import AthlibVerif.Oblig.C05.Tyrving
import AthlibVerif.Oblig.C05.Tables
/-!
# C05 — A better performance never scores fewer points, in any scoring system

Generic monotonicity theorems over PARAMETERS (any coefficients, tables, marks), then the property itself
over the regenerated data: the generic theorem plus a kernel-decided side-condition (`Oblig/C05`, `Oblig/C01`).
Marks are hundredths; "better" is smaller for timed events and larger for field events.  Bounds: points are
`Nat` (never negative); QuadKids 10…100; Bulgarian 0…150; a hand-timed Tyrving mark never beats the same figure
timed electronically.  The Hungarian model is the REPAIRED behaviour (fixes/hungarian-zero-point-clamp.diff);
the unrepaired parabola is `Hungarian.raw`, monotone only on the range the property states.
-/
namespace AthlibVerif.Props.C05
open AthlibVerif AthlibVerif.Junior AthlibVerif.Athlon

/-- the points rise with the distance of the mark from the zero point; the kind only says on which side of the
    zero point the mark scores -/
theorem points_le_of_base_le (r : ScoreRow) (kind : EvKind) (k k' : Nat) (hb : 0 < r.xb)
    (h : base r kind k ≤ base r kind k') : Athlon.points r kind k ≤ Athlon.points r kind k' :=
  floorPow_mono _ _ _ _ _ _ _ hb h

/-- track: a slower (larger) adjusted mark never scores more -/
theorem powerLaw_mono_track (r : ScoreRow) (k k' : Nat) (hb : 0 < r.xb) (h : k ≤ k') :
    Athlon.points r .track k' ≤ Athlon.points r .track k :=
  points_le_of_base_le r .track k' k hb (by simp only [base]; omega)

/-- field: a longer / higher adjusted mark never scores less -/
theorem powerLaw_mono_field (r : ScoreRow) (kind : EvKind) (k k' : Nat) (hk : kind ≠ .track) (hb : 0 < r.xb) (h : k ≤ k') :
    Athlon.points r kind k ≤ Athlon.points r kind k' := by
  apply points_le_of_base_le r kind k k' hb
  cases kind with
  | track => exact absurd rfl hk
  | jump => simp only [base]; omega
  | throw => simp only [base]; omega

/-- the age adjustment with a fixed factor keeps the order of the marks -/
theorem adjust_mono (kind : EvKind) (k k' fN fD : Nat) (h : k ≤ k') : adjust kind k fN fD ≤ adjust kind k' fN fD := by
  have hm : k * fN ≤ k' * fN := Nat.mul_le_mul_right _ h
  cases kind <;> simp only [adjust, floorDiv]
  · exact Nat.div_le_div_right hm
  · exact Nat.div_le_div_right hm
  · exact ceilDiv_mono _ _ _ hm

/-- power law, both directions, with or without the age adjustment (`fN = fD` is "no adjustment") -/
theorem powerLaw_mono (r : ScoreRow) (kind : EvKind) (k k' fN fD : Nat) (hb : 0 < r.xb) (h : k ≤ k') :
    if kind = .track then Athlon.points r kind (adjust kind k' fN fD) ≤ Athlon.points r kind (adjust kind k fN fD)
    else Athlon.points r kind (adjust kind k fN fD) ≤ Athlon.points r kind (adjust kind k' fN fD) := by
  have ha := adjust_mono kind k k' fN fD h
  by_cases hk : kind = .track
  · rw [if_pos hk]; subst hk; exact powerLaw_mono_track r _ _ hb ha
  · rw [if_neg hk]; exact powerLaw_mono_field r kind _ _ hk hb ha

/-- timed events, unrepaired parabola: `p₁ ≤ p₂ ≤ −b → score p₂ ≤ score p₁` -/
theorem quadratic_mono_timed (r : HuRow) (k k' : Nat) (h : k ≤ k') (hz : Hungarian.dist r k' ≤ 0) :
    Hungarian.raw r k' ≤ Hungarian.raw r k := Hungarian.raw_mono_timed r k k' h hz

/-- field events (`b ≥ 0`), unrepaired parabola: `0 ≤ p₁ ≤ p₂ → score p₁ ≤ score p₂` -/
theorem quadratic_mono_field (r : HuRow) (k k' : Nat) (hb : 0 ≤ r.bN) (h : k ≤ k') :
    Hungarian.raw r k ≤ Hungarian.raw r k' :=
  Hungarian.raw_mono_field r k k' h (Hungarian.dist_nonneg_of_field r k hb)

/-- repaired score: monotone over the whole grid in the direction of the event (and `Nat`: never negative) -/
theorem hungarian_mono (r : HuRow) (k k' : Nat) (h : k ≤ k') :
    if Hungarian.timed r then Hungarian.points r k' ≤ Hungarian.points r k
    else Hungarian.points r k ≤ Hungarian.points r k' := by
  cases ht : Hungarian.timed r
  · simpa using Hungarian.points_mono_field r k k' ht h
  · simpa using Hungarian.points_mono_timed r k k' ht h

/-- `fixes/hungarian-zero-point-clamp.diff`: the unclamped parabola `Hungarian.raw` on two rows given as literals —
    men's 100 m, 20.00 s scores more than 17.00 s; men's high jump, 0.50 m scores below zero -/
theorem hungarian_pinned_rises :
    Hungarian.raw ⟨"M", "OUT", "100", 2463, 100, -17, 1, 0, 1⟩ 1700 < Hungarian.raw ⟨"M", "OUT", "100", 2463, 100, -17, 1, 0, 1⟩ 2000 := by
  decide
theorem hungarian_pinned_negative : Hungarian.raw ⟨"M", "OUT", "HJ", 3229, 100, 5767, 500, -5000, 1⟩ 50 < 0 := by decide

theorem tyrving_race_mono (S dist mN B k k' : Nat) (manual : Bool) (h : k ≤ k') :
    Tyrving.race S dist mN B k' manual ≤ Tyrving.race S dist mN B k manual := by
  cases manual
  · exact floorNat_affine_mono _ _ _ _ _ (by simp only [Bool.false_eq_true, if_false]; omega)
  · exact floorNat_affine_mono _ _ _ _ _ (by simp only [if_true]; omega)

theorem tyrving_jump_mono (S mN B k k' : Nat) (h : k ≤ k') : Tyrving.jump S mN B k ≤ Tyrving.jump S mN B k' :=
  floorNat_affine_mono _ _ _ _ _ (by omega)

theorem tyrving_stav_mono (S m0 m1 m2 L0 L1 P2 k k' : Nat) (hj : Tyrving.stavJoin S m1 L0 L1 P2) (h : k ≤ k') :
    Tyrving.stav S m0 m1 m2 L0 L1 P2 k ≤ Tyrving.stav S m0 m1 m2 L0 L1 P2 k' :=
  Tyrving.stav_mono S m0 m1 m2 L0 L1 P2 k k' hj h

theorem tyrving_manual_le_auto (S dist mN B k : Nat) :
    Tyrving.race S dist mN B k true ≤ Tyrving.race S dist mN B k false :=
  floorNat_affine_mono _ _ _ _ _ (by simp only [if_true, Bool.false_eq_true, if_false]; omega)

theorem baseAt_mem (t : BaseTab) (age v : Nat) (h : baseAt t age = some v) : (age, v) ∈ t := by
  obtain ⟨e, hf, rfl⟩ := Option.map_eq_some_iff.1 h
  have h1 := List.find?_some hf
  simp only [beq_iff_eq] at h1
  exact h1 ▸ List.mem_of_find?_eq_some hf

def isRace : TyCalc → Bool
  | .race _ _ _ => true
  | _ => false

/-- a whole Tyrving calculator: monotone in the direction of its kind, for every age, once the join condition holds -/
theorem tyrving_calc_mono (S : Nat) (c : TyCalc) (age k k' p p' : Nat) (manual : Bool)
    (hj : Oblig.C05.stavJoinB S c = true) (h : k ≤ k')
    (hp : Tyrving.calcPoints S c age k manual = .pts p) (hp' : Tyrving.calcPoints S c age k' manual = .pts p') :
    if isRace c then p' ≤ p else p ≤ p' := by
  cases c with
  | race dist mN base =>
    simp only [Tyrving.calcPoints] at hp hp'
    split at hp
    · next B hB =>
      rw [hB] at hp'
      cases hp
      cases hp'
      exact tyrving_race_mono S dist mN B k k' manual h
    · cases hp
  | jump mN base =>
    simp only [Tyrving.calcPoints] at hp hp'
    split at hp
    · next B hB =>
      rw [hB] at hp'
      cases hp
      cases hp'
      exact tyrving_jump_mono S mN B k k' h
    · cases hp
  | stav m0 m1 m2 l0 l1 p2 =>
    simp only [Tyrving.calcPoints] at hp hp'
    split at hp
    · next L0 L1 P2 h0 h1 h2 =>
      rw [h0, h1, h2] at hp'
      cases hp
      cases hp'
      have hj' := List.all_eq_true.1 hj _ (baseAt_mem l0 age L0 h0)
      simp only [h1, h2, decide_eq_true_eq] at hj'
      exact Tyrving.stav_mono S m0 m1 m2 L0 L1 P2 k k' hj' h
    · cases hp
  | bad => cases hp

theorem qkids_mono (incN incD base k k' : Nat) (run : Bool) (h : k ≤ k') :
    if run then Qkids.points incN incD run base k' ≤ Qkids.points incN incD run base k
    else Qkids.points incN incD run base k ≤ Qkids.points incN incD run base k' := by
  cases run
  · exact Qkids.points_mono_of_raw _ _ _ _ _ false false (Qkids.raw_mono incN incD base k k' false h)
  · exact Qkids.points_mono_of_raw _ _ _ _ _ true true (Qkids.raw_mono incN incD base k' k true h)

theorem qkids_bounds (incN incD base k : Nat) (run : Bool) :
    10 ≤ Qkids.points incN incD run base k ∧ Qkids.points incN incD run base k ≤ 100 := by
  unfold Qkids.points; omega

/-- when the last row carries the greatest points of the table (`lastMaxB`): a better mark never scores less -/
theorem sportshall_mono (e : ShEvent) (k k' : Nat) (hs : Oblig.C05.lastMaxB e.rows = true)
    (h : Sportshall.better e.high k k') : Sportshall.points e k ≤ Sportshall.points e k' := by
  refine Sportshall.points_mono e k k' (fun maxP maxT hl r hr => ?_) h
  unfold Oblig.C05.lastMaxB at hs
  rw [hl] at hs
  exact of_decide_eq_true (List.all_eq_true.1 hs r hr)

theorem bulgarian_mono (t : BgTable) (k k' p p' : Nat) (hc : Bulgarian.chainB t.timed t.runs = true)
    (hb : ∀ r ∈ t.runs, r.2.2 ≤ 150) (h : k ≤ k')
    (hp : Bulgarian.points t k = some p) (hp' : Bulgarian.points t k' = some p') :
    if t.timed then p' ≤ p else p ≤ p' := by
  have ho := Bulgarian.ordered_of_chainB _ _ hc
  cases ht : t.timed
  · exact Bulgarian.points_le t k k' p p' ho hb (by simp [ht, h]) hp hp'
  · exact Bulgarian.points_le t k' k p' p ho hb (by simp [ht, h]) hp' hp

theorem bulgarian_bounds (t : BgTable) (k p : Nat) (hb : ∀ r ∈ t.runs, r.2.2 ≤ 150)
    (hp : Bulgarian.points t k = some p) : p ≤ 150 := Bulgarian.points_bounds t k p hb hp

/-- For every scoring system and every table / row of the regenerated data, every pair of marks `k ≤ k'`
    (hundredths) and every age / age factor: the better mark never receives fewer points; results are naturals
    within the system's bounds; a hand-timed Tyrving mark never beats the electronic one. -/
def C05_statement : Prop :=
  -- combined events (the tabulated rows and the ESAA row), under any age factor `fN/fD` (without an age `score` passes `fN = fD`)
  (∀ r ∈ Gen.esaaRow :: Gen.scoringTable, ∀ (kind : EvKind) (k k' fN fD : Nat), k ≤ k' →
    if kind = .track then Athlon.points r kind (adjust kind k' fN fD) ≤ Athlon.points r kind (adjust kind k fN fD)
    else Athlon.points r kind (adjust kind k fN fD) ≤ Athlon.points r kind (adjust kind k' fN fD)) ∧
  -- Hungarian (the repaired score)
  (∀ r ∈ Gen.hungarianFactors, ∀ k k' : Nat, k ≤ k' →
    if Hungarian.timed r then Hungarian.points r k' ≤ Hungarian.points r k
    else Hungarian.points r k ≤ Hungarian.points r k') ∧
  -- Tyrving: every row, every age at which both marks get points, hand-timed or not
  (∀ r ∈ Gen.tyrvingTables, ∀ (age k k' p p' : Nat) (manual : Bool), k ≤ k' →
    Tyrving.calcPoints Gen.tyrvingScale r.cal age k manual = .pts p →
    Tyrving.calcPoints Gen.tyrvingScale r.cal age k' manual = .pts p' →
    if isRace r.cal then p' ≤ p else p ≤ p') ∧
  -- Tyrving races: hand timing against electronic timing of the same figure
  (∀ S dist mN B k : Nat, Tyrving.race S dist mN B k true ≤ Tyrving.race S dist mN B k false) ∧
  -- QuadKids, with the bounds 10 … 100
  (∀ r ∈ Gen.qkidsTables, ∀ (run : Bool) (k k' : Nat), k ≤ k' →
    (if run then Qkids.points r.incN r.incD run r.base k' ≤ Qkids.points r.incN r.incD run r.base k
     else Qkids.points r.incN r.incD run r.base k ≤ Qkids.points r.incN r.incD run r.base k') ∧
    10 ≤ Qkids.points r.incN r.incD run r.base k ∧ Qkids.points r.incN r.incD run r.base k ≤ 100) ∧
  -- Sportshall
  (∀ e ∈ Gen.sportshallTables, ∀ k k' : Nat, Sportshall.better e.high k k' → Sportshall.points e k ≤ Sportshall.points e k') ∧
  -- Bulgarian, with the bound 150
  (∀ t ∈ Gen.bulgarianTables, ∀ k k' p p' : Nat, k ≤ k' → Bulgarian.points t k = some p → Bulgarian.points t k' = some p' →
    (if t.timed then p' ≤ p else p ≤ p') ∧ p ≤ 150)

theorem C05 : C05_statement := by
  refine ⟨?_, ?_, ?_, ?_, ?_, ?_, ?_⟩
  · intro r hr kind k k' fN fD h
    have hok := List.all_eq_true.1 Oblig.C01.table_ok r hr
    simp only [Oblig.C01.rowOK, Bool.and_eq_true, decide_eq_true_eq] at hok
    exact powerLaw_mono r kind k k' fN fD hok.2 h
  · intro r _ k k' h
    exact hungarian_mono r k k' h
  · intro r hr age k k' p p' manual h hp hp'
    exact tyrving_calc_mono _ r.cal age k k' p p' manual (List.all_eq_true.1 Oblig.C05.tyrving_join r hr) h hp hp'
  · exact tyrving_manual_le_auto
  · intro r _ run k k' h
    exact ⟨qkids_mono r.incN r.incD r.base k k' run h, qkids_bounds r.incN r.incD r.base k run⟩
  · intro e he k k' h
    exact sportshall_mono e k k' (List.all_eq_true.1 Oblig.C05.sportshall_last_max e he) h
  · intro t ht k k' p p' h hp hp'
    have hok := List.all_eq_true.1 Oblig.C05.bulgarian_ordered t ht
    simp only [Bool.and_eq_true, List.all_eq_true, decide_eq_true_eq] at hok
    exact ⟨bulgarian_mono t k k' p p' hok.1 hok.2 h hp hp', bulgarian_bounds t k p hok.2 hp⟩

/-! ### non-vacuity: the hypotheses can be met and the conclusions are strict somewhere.  The Tyrving rows below are
    literals copied by hand (age 10 of F SP2K, age 15 of F 100, scale 100), not read from `Gen.tyrvingTables`:
    they do not follow a regeneration. -/
example : Tyrving.calcPoints Gen.tyrvingScale (.stav 30 60 120 [(10, 680)] [(10, 544)] [(10, 918)]) 10 500 false = .pts 865 := by decide
example : Tyrving.calcPoints Gen.tyrvingScale (.stav 30 60 120 [(10, 680)] [(10, 544)] [(10, 918)]) 10 700 false = .pts 1006 := by decide
example : Tyrving.stavJoin 100 60 680 544 918 := by decide
example : Sportshall.better true 150 300 := by simp [Sportshall.better]
example : Tyrving.race 100 100 160 1290 1300 true < Tyrving.race 100 100 160 1290 1300 false := by decide
/-- a table violating the join condition is NOT monotone: the side-condition is needed -/
example : Tyrving.stav 100 30 60 120 680 544 990 544 > Tyrving.stav 100 30 60 120 680 544 990 545 := by decide

end AthlibVerif.Props.C05
