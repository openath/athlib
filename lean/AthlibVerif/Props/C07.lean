import AthlibVerif.Model.Codes
import AthlibVerif.Oblig.C07.Tie
import AthlibVerif.Lemmas.MatchTie
import AthlibVerif.Props.C04
/-!
# C07 — Event-code normalisation yields one canonical, valid, stable spelling

`Codes.normalize` transcribes `normalize_event_code` over the patterns regenerated from `athlib/codes.py`
(capture-reporting matcher, `Model/Match.lean`).  Proved here for **all** strings:
no result contains white space; a string is refused with `ValueError` exactly when the general pattern
rejects it (after stripping), and nothing else is ever raised; the shape of relay results; every group
normaliser ends in its canonical unit, and the zero-stripper removes exactly the zeros of the fraction and a
then-bare point (`normTz_spec`).
NOT proved (full statement `C07_statement`; decided by the correspondence over the enumerated language and
by the property oracle on the implementation): the result is accepted, idempotent and in the same families,
and variant spellings collapse.  (The closure clause is decided by correspondence and not by reflection: without
ACI-normalised derivatives the product automaton for "upper-casing closes the generic language" does not close —
DESIGN.md §8.)
-/
namespace AthlibVerif.Props.C07
open AthlibVerif AthlibVerif.Codes

theorem mem_removeSpace (s : Str) (c : Char) (h : c ∈ removeSpace s) : isSpaceC c = false := by
  unfold removeSpace at h
  have := (List.mem_filter.1 h).2
  simpa using this

/-- **No white space** in any normalised code. -/
theorem C07_no_space (s r : Str) (h : normalize s = .ok r) : ∀ c ∈ r, isSpaceC c = false := by
  unfold normalize at h
  simp only at h
  split at h
  · cases h
  · split at h
    · injection h with h; subst h; exact fun c hc => mem_removeSpace _ c hc
    · injection h with h; subst h; exact fun c hc => mem_removeSpace _ c hc

/-- **Refusal.** A string the general pattern rejects (after stripping) is refused with `ValueError`. -/
theorem C07_refuses (s : Str) (h : pyMatch "PAT_EVENT_CODE" (strip s) = none) : normalize s = .error .valueError := by
  unfold normalize; simp only [h]

/-- … and only such strings are refused; no other error is ever raised. -/
theorem C07_accepts_only_codes (s : Str) :
    (∃ r, normalize s = .ok r) ↔ (pyMatch "PAT_EVENT_CODE" (strip s)).isSome := by
  unfold normalize
  simp only
  split
  · next h => simp [h]
  · next caps h =>
    simp only [h, Option.isSome_some, iff_true]
    split <;> exact ⟨_, rfl⟩

theorem C07_only_value_error (s : Str) (e : PyErr) (h : normalize s = .error e) : e = .valueError := by
  unfold normalize at h
  simp only at h
  split at h
  · injection h with h; exact h.symm
  · split at h <;> cases h

/-- relays: `<legs>x<LEG>` with the leg upper-cased, white space removed -/
theorem C07_relay_shape (s : Str) (rc caps : GRE.Caps)
    (h1 : pyMatch "PAT_EVENT_CODE" (strip s) = some caps) (h2 : pyMatch "PAT_RELAYS" (strip s) = some rc) :
    normalize s = .ok (removeSpace (((group (strip s) rc 1).getD []) ++ ['x'] ++ upper ((group (strip s) rc 2).getD []))) := by
  unfold normalize; simp only [h1, h2]

theorem dropEndWhileL_getLast (p : Char → Bool) (l : Str) (c : Char)
    (h : (dropEndWhileL p l).getLast? = some c) : p c = false := by
  unfold dropEndWhileL at h
  rw [List.getLast?_reverse] at h
  have := List.head?_dropWhile_not p l.reverse
  rw [h] at this
  simpa using this

/-- the stripped text does not end in white space -/
theorem strip_last (s : Str) (c : Char) (h : (strip s).getLast? = some c) : isSpaceC c = false :=
  dropEndWhileL_getLast isSpaceC _ c h

/-- **The zero-stripper.** Without a point the text is only stripped; with a point, the zeros at the end are
    removed and then one bare point: when the remaining text does not end in that point, it ends neither in
    `0` nor in `.` (e.g. `1.50` → `1.5`); when it does, exactly that point is removed (`100.0` → `100`). -/
theorem normTz_spec (s : Str) :
    ((strip s).contains '.' = false → normTz s = strip s) ∧
    ((strip s).contains '.' = true →
      let t := dropEndWhileL (· == '0') (strip s)
      (t.getLast? = some '.' → normTz s = t.dropLast) ∧
      (t.getLast? ≠ some '.' → normTz s = t ∧ ∀ c, t.getLast? = some c → c ≠ '0' ∧ c ≠ '.')) := by
  unfold normTz
  simp only
  constructor
  · intro h; rw [if_neg (by rw [h]; simp)]
  · intro h
    simp only [h, if_true]
    constructor
    · intro hl; simp [hl]
    · intro hl
      refine ⟨by simp [hl], ?_⟩
      intro c hc
      have h0 := dropEndWhileL_getLast (· == '0') _ c hc
      exact ⟨by simpa using h0, fun hcd => hl (by rw [hcd] at hc; exact hc)⟩

/-- every unit-bearing normaliser ends in its canonical unit -/
theorem C07_norm_kinds_end (s : Str) :
    (applyNorm .kg s).getLast? = some 'K' ∧ (∃ t, applyNorm .cm s = t ++ ['c', 'm']) ∧
    (applyNorm .m s).getLast? = some 'm' := by
  refine ⟨by simp [applyNorm], ⟨_, rfl⟩, by simp [applyNorm]⟩

/-! Acceptance is membership in the language the C04 theorems speak about: the transcription matches with the
capture-reporting backtracking matcher on the pattern rendered with groups; `Lemmas/MatchSound.lean` proves that matcher
sound and complete for the language of its pattern, and `Oblig/C07/Tie.lean` ties the two renderings of every regenerated
pattern. -/

theorem pyMatch_event_code (s : Str) : (pyMatch "PAT_EVENT_CODE" s).isSome = true ↔ Matches Gen.PAT_EVENT_CODE s :=
  pyMatch_iff _ _ (Oblig.C07.tied Oblig.C07.mem_EVENT_CODE) s

/-- **Accepted exactly on the language**: normalisation succeeds iff the stripped string is in the language of
    the general pattern — for every string. -/
theorem C07_accepts_iff_language (s : Str) :
    (∃ r, normalize s = .ok r) ↔ Matches Gen.PAT_EVENT_CODE (strip s) := by
  rw [C07_accepts_only_codes, pyMatch_event_code]

/-- … iff one of the ten specific families accepts it (with `C04`). -/
theorem C07_accepts_iff_family (s : Str) :
    (∃ r, normalize s = .ok r) ↔
      (Matches Gen.PAT_TRACK (strip s) ∨ Matches Gen.PAT_HURDLES (strip s) ∨ Matches Gen.PAT_ROAD (strip s) ∨
       Matches Gen.PAT_RELAYS (strip s) ∨ Matches Gen.PAT_JUMPS (strip s) ∨ Matches Gen.PAT_THROWS (strip s) ∨
       Matches Gen.PAT_MULTI (strip s) ∨ Matches Gen.PAT_RACES_FOR_DISTANCE (strip s) ∨
       Matches Gen.PAT_HIGHSCORING_EVENT (strip s) ∨ Matches Gen.PAT_LOWSCORING_EVENT (strip s)) := by
  rw [C07_accepts_iff_language]; exact Props.C04.C04_event_code (strip s)

/-- **Refused exactly off the language**, with `ValueError`. -/
theorem C07_refused_iff_not_code (s : Str) :
    normalize s = .error .valueError ↔ ¬ Matches Gen.PAT_EVENT_CODE (strip s) := by
  rw [← C07_accepts_iff_language]
  constructor
  · rintro h ⟨r, hr⟩; rw [h] at hr; cases hr
  · intro h
    cases hn : normalize s with
    | ok r => exact (h ⟨r, hn⟩).elim
    | error e => rw [C07_only_value_error s e hn]

/-- non-vacuity: a code and a non-code, kernel-evaluated through the matcher -/
example : (pyMatch "PAT_EVENT_CODE" "4x100".toList).isSome = true ∧ (pyMatch "PAT_EVENT_CODE" "4x".toList).isSome = false := by
  decide +kernel

/-- Full statement of the closure clauses (NOT proved here). -/
def C07_statement : Prop :=
  ∀ s r, normalize s = .ok r →
    (pyMatch "PAT_EVENT_CODE" r).isSome ∧ normalize r = .ok r

end AthlibVerif.Props.C07
