import AthlibVerif.Lemmas.WmaEval
import AthlibVerif.Gen.Wma2015
/-! obligation over the regenerated table and patterns (2015, f): row names are distinct, upper-case and
    classified by the live patterns; the lower-case spelling of every row name is either refused or
    measured the same way (timed / field) -/
namespace AthlibVerif.Oblig.C14
open AthlibVerif AthlibVerif.Wma
theorem spelling_ok_2015_f : spellingOK Gen.wma2015.f = true := by
  rw [spellingOK_eq]
  decide +kernel
end AthlibVerif.Oblig.C14
