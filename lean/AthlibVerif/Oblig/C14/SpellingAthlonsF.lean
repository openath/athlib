import AthlibVerif.Lemmas.WmaEval
import AthlibVerif.Gen.WmaAthlons
/-! obligation over the regenerated table and patterns (Athlons, f): row names are distinct, upper-case and
    classified by the live patterns; the lower-case spelling of every row name is either refused or
    measured the same way (timed / field) -/
namespace AthlibVerif.Oblig.C14
open AthlibVerif AthlibVerif.Wma
theorem spelling_ok_athlons_f : spellingOK Gen.wmaAthlons.f = true := by
  rw [spellingOK_eq]
  decide +kernel
end AthlibVerif.Oblig.C14
