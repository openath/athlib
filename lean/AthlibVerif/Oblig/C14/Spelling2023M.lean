import AthlibVerif.Lemmas.WmaEval
import AthlibVerif.Gen.Wma2023
/-! obligation over the regenerated table and patterns (2023, m): row names are distinct, upper-case and
    classified by the live patterns; the lower-case spelling of every row name is either refused or
    measured the same way (timed / field) -/
namespace AthlibVerif.Oblig.C14
open AthlibVerif AthlibVerif.Wma
theorem spelling_ok_2023_m : spellingOK Gen.wma2023.m = true := by
  rw [spellingOK_eq]
  decide +kernel
end AthlibVerif.Oblig.C14
