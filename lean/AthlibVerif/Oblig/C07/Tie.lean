import AthlibVerif.Model.Codes
import AthlibVerif.Gen.Patterns
import AthlibVerif.Checks.Match
/-!
Obligation over the regenerated patterns: every pattern of `Gen/Patterns.lean` (the `RE` rendering the C04
theorems speak about) is tied to its rendering with groups (`Gen/GPatterns.lean`, what the transcription of
`athlib/utils.py` matches with): within the matcher's fuel budget, `$` at the end of every branch and nowhere
else, same expression modulo the order of `x?`.  Evaluated by the kernel on the regenerated terms.
-/
namespace AthlibVerif.Oblig.C07
open AthlibVerif

theorem patterns_tied : Gen.patternTable.all (fun e => tieOK (Codes.pat e.1) e.2) = true := by decide +kernel

theorem tied {name : String} {p : RE} (h : (name, p) ∈ Gen.patternTable) : tieOK (Codes.pat name) p = true :=
  List.all_eq_true.1 patterns_tied (name, p) h

theorem mem_EVENT_CODE : ("PAT_EVENT_CODE", Gen.PAT_EVENT_CODE) ∈ Gen.patternTable := by decide +kernel

end AthlibVerif.Oblig.C07
