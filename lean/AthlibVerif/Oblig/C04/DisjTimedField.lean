import AthlibVerif.Gen.Patterns
import AthlibVerif.Gen.Alphabet
import AthlibVerif.Checks.Regex
/-! obligation: no string is accepted by both `PAT_TIMED_EVENT` and `PAT_FIELD` -/
namespace AthlibVerif.Oblig.C04
open AthlibVerif AthlibVerif.Gen
theorem disjTimedField : RE.emptyK nsym 100000 (RE.and PAT_TIMED_EVENT PAT_FIELD) = true := by decide +kernel
end AthlibVerif.Oblig.C04
