import AthlibVerif.Gen.Patterns
import AthlibVerif.Gen.Alphabet
/-! obligation: `PAT_FIELD` = union of PAT_THROWS, PAT_JUMPS (`eqCheck`: the same flattened alternatives, else emptiness of the symmetric difference) -/
namespace AthlibVerif.Oblig.C04
open AthlibVerif AthlibVerif.Gen
def unionField : RE := (.alt PAT_THROWS PAT_JUMPS)
theorem eqField : RE.eqCheck nsym 100000 PAT_FIELD unionField = true := by decide +kernel
end AthlibVerif.Oblig.C04
