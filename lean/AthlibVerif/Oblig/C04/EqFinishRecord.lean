import AthlibVerif.Gen.Patterns
import AthlibVerif.Gen.Alphabet
/-! obligation: `PAT_FINISH_RECORD` = union of PAT_PERF, PAT_FINISHED, PAT_NOT_FINISHED (`eqCheck`: the same flattened alternatives, else emptiness of the symmetric difference) -/
namespace AthlibVerif.Oblig.C04
open AthlibVerif AthlibVerif.Gen
def unionFinishRecord : RE := (.alt PAT_PERF (.alt PAT_FINISHED PAT_NOT_FINISHED))
theorem eqFinishRecord : RE.eqCheck nsym 100000 PAT_FINISH_RECORD unionFinishRecord = true := by decide +kernel
end AthlibVerif.Oblig.C04
