import AthlibVerif.Gen.Patterns
import AthlibVerif.Gen.Alphabet
/-! obligation: `PAT_EVENT_CODE` = union of PAT_TRACK, PAT_HURDLES, PAT_ROAD, PAT_RELAYS, PAT_JUMPS, PAT_THROWS, PAT_MULTI, PAT_RACES_FOR_DISTANCE, PAT_HIGHSCORING_EVENT, PAT_LOWSCORING_EVENT (`eqCheck`: the same flattened alternatives, else emptiness of the symmetric difference) -/
namespace AthlibVerif.Oblig.C04
open AthlibVerif AthlibVerif.Gen
def unionEventCode : RE := (.alt PAT_TRACK (.alt PAT_HURDLES (.alt PAT_ROAD (.alt PAT_RELAYS (.alt PAT_JUMPS (.alt PAT_THROWS (.alt PAT_MULTI (.alt PAT_RACES_FOR_DISTANCE (.alt PAT_HIGHSCORING_EVENT PAT_LOWSCORING_EVENT)))))))))
theorem eqEventCode : RE.eqCheck nsym 100000 PAT_EVENT_CODE unionEventCode = true := by decide +kernel
end AthlibVerif.Oblig.C04
