import AthlibVerif.Gen.Patterns
import AthlibVerif.Gen.Alphabet
import AthlibVerif.Checks.Regex
/-! obligation: no string is accepted by both `PAT_JUMPS` and `PAT_THROWS` (the first-match classifiers `unit_name` and
    `event_code_to_kind` test the two in opposite orders) -/
namespace AthlibVerif.Oblig.C04
open AthlibVerif AthlibVerif.Gen
theorem disjJumpsThrows : RE.emptyK nsym 100000 (RE.and PAT_JUMPS PAT_THROWS) = true := by decide +kernel
end AthlibVerif.Oblig.C04
