import AthlibVerif.Gen.Patterns
import AthlibVerif.Gen.Alphabet
/-! obligation: `PAT_LENGTH_EVENT` = union of PAT_HORIZONTAL_JUMPS, PAT_THROWS (`eqCheck`: the same flattened alternatives, else emptiness of the symmetric difference) -/
namespace AthlibVerif.Oblig.C04
open AthlibVerif AthlibVerif.Gen
def unionLengthEvent : RE := (.alt PAT_HORIZONTAL_JUMPS PAT_THROWS)
theorem eqLengthEvent : RE.eqCheck nsym 100000 PAT_LENGTH_EVENT unionLengthEvent = true := by decide +kernel
end AthlibVerif.Oblig.C04
