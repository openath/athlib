import AthlibVerif.Gen.Patterns
import AthlibVerif.Gen.Alphabet
/-! obligation: `PAT_JUMPS` = union of PAT_VERTICAL_JUMPS, PAT_HORIZONTAL_JUMPS (`eqCheck`: the same flattened alternatives, else emptiness of the symmetric difference) -/
namespace AthlibVerif.Oblig.C04
open AthlibVerif AthlibVerif.Gen
def unionJumps : RE := (.alt PAT_VERTICAL_JUMPS PAT_HORIZONTAL_JUMPS)
theorem eqJumps : RE.eqCheck nsym 100000 PAT_JUMPS unionJumps = true := by decide +kernel
end AthlibVerif.Oblig.C04
