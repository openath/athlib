import AthlibVerif.Gen.Patterns
import AthlibVerif.Gen.Alphabet
/-! obligation: `PAT_RUN` = union of PAT_TRACK, PAT_ROAD, PAT_RELAYS (`eqCheck`: the same flattened alternatives, else emptiness of the symmetric difference) -/
namespace AthlibVerif.Oblig.C04
open AthlibVerif AthlibVerif.Gen
def unionRun : RE := (.alt PAT_TRACK (.alt PAT_ROAD PAT_RELAYS))
theorem eqRun : RE.eqCheck nsym 100000 PAT_RUN unionRun = true := by decide +kernel
end AthlibVerif.Oblig.C04
