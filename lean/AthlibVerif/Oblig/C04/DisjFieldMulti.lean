import AthlibVerif.Gen.Patterns
import AthlibVerif.Gen.Alphabet
import AthlibVerif.Checks.Regex
/-! obligation: no string is accepted by both `PAT_FIELD` and `PAT_MULTI` -/
namespace AthlibVerif.Oblig.C04
open AthlibVerif AthlibVerif.Gen
theorem disjFieldMulti : RE.emptyK nsym 100000 (RE.and PAT_FIELD PAT_MULTI) = true := by decide +kernel
end AthlibVerif.Oblig.C04
