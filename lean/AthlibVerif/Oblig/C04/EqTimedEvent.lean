import AthlibVerif.Gen.Patterns
import AthlibVerif.Gen.Alphabet
/-! obligation: `PAT_TIMED_EVENT` = union of PAT_TRACK, PAT_HURDLES, PAT_ROAD, PAT_RELAYS (`eqCheck`: the same flattened alternatives, else emptiness of the symmetric difference) -/
namespace AthlibVerif.Oblig.C04
open AthlibVerif AthlibVerif.Gen
def unionTimedEvent : RE := (.alt PAT_TRACK (.alt PAT_HURDLES (.alt PAT_ROAD PAT_RELAYS)))
theorem eqTimedEvent : RE.eqCheck nsym 100000 PAT_TIMED_EVENT unionTimedEvent = true := by decide +kernel
end AthlibVerif.Oblig.C04
