import AthlibVerif.Checks.Codes
/-!
Obligations over the regenerated patterns, alphabet and `FIELD_SORT_ORDER` that `C10_total` rests on (checkers in
`Checks/Codes.lean`): the groups handed to `int()` capture only `\d+` and every digit has a value; the shapes of the metres
group of the track pattern, of the leading-number patterns of `get_distance` and of a relay leg; field codes start with a
spelling of an entry; no code is white space only.  Evaluated by the kernel.
-/
namespace AthlibVerif.Oblig.C10
open AthlibVerif AthlibVerif.Codes

/-- every code point of the digit class has a digit value, so `int()` reads whatever `\d+` matches -/
theorem digit_table : digitTableOK = true := by decide +kernel

/-- the metres group of the hurdles pattern only captures `\d+`, and every match has it -/
theorem hurdles_metres : (groupDigits (pat "PAT_HURDLES") 1 && GRE.mandatory [1] (pat "PAT_HURDLES")) = true := by
  decide +kernel
/-- the number-of-legs group of the relay pattern only captures `\d+`, and every match has it -/
theorem relays_legs : (groupDigits (pat "PAT_RELAYS") 1 && GRE.mandatory [1] (pat "PAT_RELAYS")) = true := by
  decide +kernel

/-- the hours / minutes groups of the fixed-duration pattern only capture `\d+`, and every match has one of them -/
def durationGroupsOK : Bool :=
  match groupId "PAT_RACES_FOR_DISTANCE" "dhours", groupId "PAT_RACES_FOR_DISTANCE" "dmins" with
  | some h, some m =>
    groupDigits (pat "PAT_RACES_FOR_DISTANCE") h && groupDigits (pat "PAT_RACES_FOR_DISTANCE") m &&
      GRE.mandatory [h, m] (pat "PAT_RACES_FOR_DISTANCE")
  | _, _ => false

theorem duration_groups : durationGroupsOK = true := by decide +kernel

/-- the metres group of the track pattern captures `\d+`, `MILE` or one digit and `MILE`; M, I, L, E are
    symbols of their own -/
theorem track_metres : trackMetresOK = true := by decide +kernel

/-- the spellings of the entries of `FIELD_SORT_ORDER` of two to four letters upper-case to entries -/
theorem field_spellings : fieldSpellingsOK true = true := by decide +kernel
/-- every throws code starts, up to letter case, with an entry of `FIELD_SORT_ORDER` of two to four letters -/
theorem throws_prefix : fieldPrefixK true Gen.PAT_THROWS = true := by decide +kernel
/-- every jumps code starts, up to letter case, with an entry of `FIELD_SORT_ORDER` of two or three letters -/
theorem jumps_prefix : fieldPrefixK false Gen.PAT_JUMPS = true := by decide +kernel

/-- the leading-number patterns of `get_distance` only match `\d+\.\d*` / `\d+`; the point is a symbol of its own -/
theorem leading : leadingOK = true := by decide +kernel
/-- every relay code contains `x`/`X`; the leg group always takes part and captures no white space, `x`, `X` -/
theorem relay_leg : relayLegOK = true := by decide +kernel
/-- no track code is white space only -/
theorem track_token : RE.emptyK Gen.nsym 100000 (RE.and Gen.PAT_TRACK spaceStar) = true := by decide +kernel

/-- the leading-number patterns ARE `\d+` / `\d+\.\d*` (so the greedy-engine lemmas apply to them) -/
theorem leading_shape : leadingShapeOK = true := by decide +kernel
/-- the first letters of the names `get_distance` knows, `K` and `x` are no digits; the unit letters and the point no white space -/
theorem num_facts : numFactsOK = true := by decide +kernel
/-- a relay leg is `\d+(\.\d+)?[hHMK]?` or one of RELAY, DMR, SMR, SDMR, SSMR, SWR in any letter case -/
theorem leg_shape : legShapeOK = true := by decide +kernel
/-- no event code consists of white space only -/
theorem codes_have_token : RE.emptyK Gen.nsym 100000 (RE.and Gen.PAT_EVENT_CODE spaceStar) = true := by decide +kernel

end AthlibVerif.Oblig.C10
