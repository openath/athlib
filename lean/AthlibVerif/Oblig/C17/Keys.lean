import AthlibVerif.Lemmas.Eval
import AthlibVerif.Gen.Patterns
import AthlibVerif.Gen.TableKeys
/-! obligation: every event-code key of the library's own tables is accepted by the general pattern -/
namespace AthlibVerif.Oblig.C17
open AthlibVerif
theorem table_keys_ok : Gen.tableKeys.all (fun k => Gen.PAT_EVENT_CODE.matchesChars k.toList) = true := by
  simp only [RE.matchesChars_eq]
  decide +kernel
end AthlibVerif.Oblig.C17
