import AthlibVerif.Oblig.C11.Tables
/-! every Sportshall row is reachable: the mark equal to its threshold scores exactly its points.
    This is not evaluated row by row (quadratic in the length of a table): only `sportshall_tables_ok` (sortedness)
    and `sportshall_thresholds_differ` are, and `sportshall_rows_reachable` follows from them by
    `Sportshall.points_self_of_sorted`, through `shSorted_pairwise`.
    Recorded finding: the 800 m column repeats 33 thresholds (e.g. 133 s for 75 and 74 points); the
    lower-point row of such a pair can never be returned.  Exactly that case — same event, an identical
    threshold carrying more points — is excluded here and reported by the check as a known finding.
    Tyrving: every tabulated (row, age) yields points (`tyrving_rows_reachable`, evaluated). -/
namespace AthlibVerif.Oblig.C11
open AthlibVerif AthlibVerif.Junior

def dupRecorded (code : String) : Bool := code == "800"

def shRowReachable (e : ShEvent) (r : Nat × Nat) : Bool :=
  Sportshall.points e r.2 == r.1 ||
    (dupRecorded e.code && e.rows.any (fun r' => r'.2 == r.2 && decide (r.1 < r'.1)))

/-- no two consecutive rows share a threshold (in a sorted table: no two rows) -/
def shStrict : List (Nat × Nat) → Bool
  | a :: b :: l => a.2 != b.2 && shStrict (b :: l)
  | _ => true

theorem sportshall_thresholds_differ :
    Gen.sportshallTables.all (fun e => dupRecorded e.code || shStrict e.rows) = true := by decide +kernel

/-- a sorted table is pairwise sorted; where consecutive thresholds differ, all do -/
theorem shSorted_pairwise (high strict : Bool) : ∀ l, shSorted high l = true → (strict = true → shStrict l = true) →
    l.Pairwise (fun a b => Sportshall.Above high a b ∧ (strict = true → a.2 ≠ b.2)) := by
  intro l
  induction l with
  | nil => intros; exact .nil
  | cons a l ih =>
    cases l with
    | nil => intros; exact List.pairwise_singleton _ _
    | cons b l =>
      intro hs hd
      simp only [shSorted, shStrict, Bool.and_eq_true, decide_eq_true_eq, bne_iff_ne, ne_eq] at hs hd
      obtain ⟨⟨hpts, hthr⟩, hsorted⟩ := hs
      have hab : Sportshall.Above high a b ∧ (strict = true → a.2 ≠ b.2) := by
        refine ⟨⟨hpts, ?_⟩, fun h => (hd h).1⟩
        unfold Sportshall.reach
        cases high <;> simpa using hthr
      have hrest := ih hsorted (fun h => (hd h).2)
      refine List.Pairwise.cons (fun c hc => ?_) hrest
      rcases List.mem_cons.1 hc with rfl | hc
      · exact hab
      · obtain ⟨⟨hptsab, hreachab⟩, hneab⟩ := hab
        obtain ⟨⟨hptsbc, hreachbc⟩, _⟩ := List.rel_of_pairwise_cons hrest hc
        refine ⟨⟨Nat.lt_trans hptsab hptsbc, Sportshall.reach_trans hreachab hreachbc⟩, fun h heq => ?_⟩
        -- `a`, `b`, `c` in table order with the thresholds of `a` and `c` equal: then `b` has that threshold too
        exact hneab h (Sportshall.reach_antisymm hreachab (heq ▸ hreachbc))

/-- row by row (`points e r.2 == r.1` for every row) this is quadratic; it follows from sortedness
    (`sportshall_tables_ok`) and, outside the recorded event, thresholds that differ -/
theorem sportshall_rows_reachable :
    Gen.sportshallTables.all (fun e => e.rows.all (shRowReachable e)) = true := by
  rw [List.all_eq_true]
  intro e he
  rw [List.all_eq_true]
  intro r hr
  have hok := List.all_eq_true.1 sportshall_tables_ok e he
  have hdiff := List.all_eq_true.1 sportshall_thresholds_differ e he
  simp only [shEventOK, Bool.and_eq_true] at hok
  have hsorted : shSorted e.high e.rows = true := hok.1.1.2
  -- `strict` is "not the recorded event": exactly there `sportshall_thresholds_differ` gives `shStrict`
  have hpw := shSorted_pairwise (high := e.high) (strict := !dupRecorded e.code) e.rows hsorted (fun h => by
    rw [Bool.not_eq_true'] at h
    simpa [h] using hdiff)
  simp only [shRowReachable, Bool.or_eq_true, Bool.and_eq_true, beq_iff_eq, List.any_eq_true, decide_eq_true_eq]
  rcases Sportshall.points_self_of_sorted e (hpw.imp And.left) r hr with h | ⟨r', hr', hthr, hpts⟩
  · exact Or.inl h
  · cases hd : dupRecorded e.code with
    | true => exact Or.inr ⟨rfl, r', hr', hthr, hpts⟩
    | false =>
      -- not the recorded event: all thresholds differ, so no such row `r'`
      have hne : ∀ a b : Nat × Nat, (Sportshall.Above e.high a b ∧ ((!dupRecorded e.code) = true → a.2 ≠ b.2)) →
          a.2 ≠ b.2 := fun a b h => h.2 (by rw [hd]; rfl)
      rcases pairwise_mem_cases hpw hr hr' with rfl | h | h
      · omega
      · exact absurd hthr.symm (hne _ _ h)
      · exact absurd hthr (hne _ _ h)

/-- every tabulated Tyrving (row, age) yields points (no missing level) -/
def tyAgesReach (r : TyRow) : Bool :=
  let ages : List Nat := match r.cal with
    | .race _ _ b => b.map (fun e => e.1) | .jump _ b => b.map (fun e => e.1)
    | .stav _ _ _ l0 _ _ => l0.map (fun e => e.1) | .bad => []
  !ages.isEmpty && ages.all (fun a => match Tyrving.calcPoints Gen.tyrvingScale r.cal a 0 false with
    | .pts _ => true | _ => false)

theorem tyrving_rows_reachable : Gen.tyrvingTables.all tyAgesReach = true := by decide +kernel

end AthlibVerif.Oblig.C11
