import AthlibVerif.Gen.Junior
import AthlibVerif.Lemmas.Eval
/-! every table key of the four systems is accepted by the regenerated `PAT_EVENT_CODE`
    (so the row can be reached through the public function under its own event code) -/
namespace AthlibVerif.Oblig.C11
open AthlibVerif AthlibVerif.Junior

def validCode (s : String) : Bool := Gen.PAT_EVENT_CODE.matchesChars s.toList

def allKeys : List String :=
  (Gen.tyrvingTables.map (·.event) ++ Gen.qkidsTables.map (·.event) ++ Gen.sportshallTables.map (·.code) ++
    Gen.bulgarianTables.map (·.event)).eraseDups

theorem keys_valid : allKeys.all validCode = true := by
  unfold validCode
  simp only [RE.matchesChars_eq]
  decide +kernel

end AthlibVerif.Oblig.C11
