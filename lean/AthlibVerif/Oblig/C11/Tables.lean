import AthlibVerif.Gen.Junior
import AthlibVerif.Lemmas.Junior
import AthlibVerif.Lemmas.Eval
/-! obligations over the regenerated junior tables: every table is well formed and ordered
    (better marks, more points).  Kernel-evaluated (`decide +kernel`) on every run. -/
namespace AthlibVerif.Oblig.C11
open AthlibVerif AthlibVerif.Junior

/-- consecutive ages, values weakly improving with age (`down`: smaller is better) -/
def baseTabOK (down : Bool) : BaseTab → Bool
  | [] => false
  | [_] => true
  | a :: b :: l => decide (a.1 + 1 = b.1) && (if down then decide (b.2 ≤ a.2) else decide (a.2 ≤ b.2)) && baseTabOK down (b :: l)

def tyRowOK (r : TyRow) : Bool :=
  match r.cal with
  | .race _ mN base => decide (0 < mN) && baseTabOK true base
  | .jump mN base => decide (0 < mN) && baseTabOK false base
  | .stav m0 m1 m2 l0 l1 p2 =>
    decide (0 < m0) && decide (0 < m1) && decide (0 < m2) && baseTabOK false l0 && baseTabOK false l1 && baseTabOK true p2 &&
      (l0.map (·.1) == l1.map (·.1)) && (l0.map (·.1) == p2.map (·.1))
  | .bad => false

/-- Tyrving: positive scale and multipliers, base performances by consecutive age improving with age,
    the three tables of a pole-vault / throw row cover the same ages -/
theorem tyrving_tables_ok : (decide (0 < Gen.tyrvingScale) && Gen.tyrvingTables.all tyRowOK) = true := by decide +kernel

/-- QuadKids: positive increment; the 10-point mark is worse than the 100-point mark -/
def qkRowOK (r : QkRow) : Bool :=
  decide (0 < r.incN) && decide (0 < r.incD) &&
    (if Tyrving.isRun r.event then decide (r.top < r.base) else decide (r.base < r.top))

theorem qkids_tables_ok : Gen.qkidsTables.all qkRowOK = true := by
  unfold qkRowOK
  simp only [Tyrving.isRun, RE.matchesChars_eq]
  decide +kernel

/-- Recorded finding: QuadKids Start standing long jump lists 0.75 m (10 points) and 3.00 m (100 points) with an
    increment of 0.03 m; ninety increments of 0.03 m from 0.75 m end at 3.45 m (the marks fit 0.025 m). -/
def qkRecorded (r : QkRow) : Bool := r.comp == "QKSTA" && r.event == "SLJ"

/-- the published 100-point mark is ninety increments better than the 10-point mark -/
def qkConsistent (r : QkRow) : Bool :=
  qkRecorded r ||
  (if Tyrving.isRun r.event then r.base * r.incD == r.top * r.incD + 90 * r.incN
   else r.top * r.incD == r.base * r.incD + 90 * r.incN)

theorem qkids_tables_consistent : Gen.qkidsTables.all qkConsistent = true := by
  unfold qkConsistent
  simp only [Tyrving.isRun, RE.matchesChars_eq]
  decide +kernel

/-- points strictly increasing down the table, thresholds never getting easier -/
def shSorted (high : Bool) : List (Nat × Nat) → Bool
  | [] => true
  | [_] => true
  | a :: b :: l => decide (a.1 < b.1) && (if high then decide (a.2 ≤ b.2) else decide (b.2 ≤ a.2)) && shSorted high (b :: l)

/-- Sportshall: non-empty sorted tables; timed events have a beyond-table step -/
def shEventOK (e : ShEvent) : Bool :=
  !e.rows.isEmpty && shSorted e.high e.rows && decide (0 < e.incD) && (e.high || decide (0 < e.incN))

theorem sportshall_tables_ok : Gen.sportshallTables.all shEventOK = true := by decide +kernel

/-- Bulgarian: the per-centi table covers exactly min…max without gaps, points between 1 and 150,
    strictly better points for better marks -/
def bgTableOK (t : BgTable) : Bool :=
  Bulgarian.chainB t.timed t.runs && t.runs.all (fun r => decide (1 ≤ r.2.2) && decide (r.2.2 ≤ 150)) &&
    (t.runs.head?.map (·.1) == some (min t.minV t.maxV)) && (t.runs.getLast?.map (·.2.1) == some (max t.minV t.maxV)) &&
    (t.timed == decide (t.maxV < t.minV))

theorem bulgarian_tables_ok : Gen.bulgarianTables.all bgTableOK = true := by decide +kernel

end AthlibVerif.Oblig.C11
