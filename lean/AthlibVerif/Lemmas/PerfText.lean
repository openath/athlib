import AthlibVerif.Lemmas.NatStr
import AthlibVerif.Lemmas.PerfGuards
import AthlibVerif.Lemmas.TimesParse
/-!
# Reading a printed time back

`timedCore` is: re-read the text (`reread`), split it at the colons, parse the fields (`parseChunks`), decide
(`timedDecide`) — `timedCore_eq`.  A text the validator printed itself (`formatTime`) is not re-read
(`reread_clean`), splits into the fields that were printed, and these parse back to the same hours and minutes and to
seconds of the same value at some precision (`stripTime_fmt52`); `timedDecide_again` does the rest
(`timedCore_formatTime`).
-/
namespace AthlibVerif.Perf
open AthlibVerif AthlibVerif.Codes AthlibVerif.Digits

theorem no_colon (l : Str) (h : allDig l = true) : ':' ∉ l := not_mem_of_allDig l ':' h (by decide)

/-- `Perf.splitOn` (a fold) and `Times.splitOn` (a recursion) are the same `str.split` -/
theorem splitOn_eq (sep : Char) (s : Str) : splitOn sep s = Times.splitOn sep s := by
  induction s with
  | nil => rfl
  | cons x cs ih =>
    unfold splitOn at ih ⊢
    rw [List.foldr_cons, ih, Times.splitOn]
    by_cases h : x = sep
    · simp [h]
    · cases Times.splitOn sep cs with
      | nil => simp [h]
      | cons f fs => simp [h]

theorem splitOn_nosep (sep : Char) (s : Str) (h : sep ∉ s) : splitOn sep s = [s] := by
  rw [splitOn_eq, Times.splitOn_nosep sep s h]

theorem splitOn_append (sep : Char) (a b : Str) (h : sep ∉ a) : splitOn sep (a ++ sep :: b) = a :: splitOn sep b := by
  rw [splitOn_eq, Times.splitOn_append sep a b h, splitOn_eq]

theorem startsWith_false (s : Str) (p : String) (ch : Char) (hp : ch ∈ p.toList) (hs : ch ∉ s) : startsWith s p = false := by
  unfold startsWith
  cases h : (s.take p.toList.length == p.toList) with
  | false => rfl
  | true =>
    exfalso
    have e : s.take p.toList.length = p.toList := by simpa using h
    have : ch ∈ s.take p.toList.length := by rw [e]; exact hp
    exact hs (List.mem_of_mem_take this)

theorem startsWith_head_ne (c : Char) (rest : Str) (p : String) (p0 : Char) (ptl : List Char)
    (hp : p.toList = p0 :: ptl) (hne : c ≠ p0) : startsWith (c :: rest) p = false := by
  unfold startsWith
  rw [hp]
  simp [hne]

/-- the text the timed branch parses, `t0` after its re-readings: the first five `let`s of `timedCore` -/
def reread (disc : Str) (distance : Option Nat) (t0 : Str) : Str :=
  let t := if startsWith t0 "0:" then t0.drop 2 else t0
  let t := if startsWith t "00:" then t.drop 3 else t
  let t := if dposOf distance && distance.getD 0 ≤ 200 && t.contains ':' && !t.contains '.' then replaceC ':' '.' t else t
  let t := if dposOf distance && distance.getD 0 ≥ 800 && t.contains '.' && !t.contains ':' then replaceC '.' ':' t else t
  if strIn disc ["800", "1500", "3000"] && !t.contains '.' then
    (match splitOn ':' t with
      | [a, b, c] => a ++ [':'] ++ b ++ ['.'] ++ c
      | _ => t)
  else t

/-- (hours, minutes, seconds as `floatOf` gives them) of one, two or three chunks: the `parsed` of `timedCore` -/
def parseChunks : List Str → Option (Nat × Nat × (Nat × Nat × Nat))
  | [s] => (floatOf s).map (fun f => (0, 0, f))
  | [m, s] => match pyInt m, floatOf s with
    | .ok m, some f => some (0, m, f)
    | _, _ => none
  | [h, m, s] => match pyInt h, pyInt m, floatOf s with
    | .ok h, .ok m, some f => some (h, m, f)
    | _, _, _ => none
  | _ => none

theorem timedCore_eq (disc t0 : Str) (dist : Option Nat) (hg : getDistance 8 disc = .ok dist) :
    timedCore disc t0 = match parseChunks (splitOn ':' (reread disc dist t0)) with
      | none => .refused
      | some (hours0, minutes0, (sn0, sd0, sdecs0)) => timedDecide disc dist hours0 minutes0 sn0 sd0 sdecs0 := by
  unfold timedCore
  rw [hg]
  rfl

theorem reread_clean (disc t : Str) (dist : Option Nat)
    (h0 : startsWith t "0:" = false) (h00 : startsWith t "00:" = false)
    (hlo : ':' ∈ t → '.' ∉ t → ∀ d, dist = some d → d = 0 ∨ 200 < d)
    (hhi : ':' ∉ t → ∀ d, dist = some d → d < 800)
    (h3 : strIn disc ["800", "1500", "3000"] = true → '.' ∉ t → (splitOn ':' t).length ≠ 3) : reread disc dist t = t := by
  have c1 : (dposOf dist && decide (dist.getD 0 ≤ 200) && t.contains ':' && !t.contains '.') = false := by
    cases dist with
    | none => rfl
    | some d =>
      by_cases hc : ':' ∈ t
      · by_cases hd : '.' ∈ t
        · simp [hd]
        · rcases hlo hc hd d rfl with rfl | h
          · simp
          · simp
            omega
      · simp [hc]
  have c2 : (dposOf dist && decide (dist.getD 0 ≥ 800) && t.contains '.' && !t.contains ':') = false := by
    cases dist with
    | none => rfl
    | some d =>
      by_cases hc : ':' ∈ t
      · simp [hc]
      · have := hhi hc d rfl
        simp
        omega
  unfold reread
  simp only [h0, h00, c1, c2, Bool.false_eq_true, if_false]
  split
  · next hc =>
    split
    · next a b c e =>
      simp only [Bool.and_eq_true, Bool.not_eq_true', List.contains_eq_mem, decide_eq_false_iff_not] at hc
      exact absurd (by rw [e]; rfl) (h3 hc.1 hc.2)
    · rfl
  · rfl

theorem floatOf_den (s : Str) (n dd k : Nat) (h : floatOf s = some (n, dd, k)) : dd = 10 ^ k := by
  unfold floatOf at h
  split at h
  · cases h
  · split at h
    · cases h
    · simp only at h
      split at h
      · cases h
      · split at h
        · injection h with h; injection h with _ h; injection h with h1 h2
          rw [← h1, ← h2]
        · cases h

theorem parseChunks_den (chunks : List Str) (h0 m0 sn0 sd0 dc0 : Nat)
    (heq : parseChunks chunks = some (h0, m0, sn0, sd0, dc0)) : sd0 = 10 ^ dc0 := by
  unfold parseChunks at heq
  split at heq
  · obtain ⟨f, hf, e⟩ := Option.map_eq_some_iff.1 heq
    cases e
    exact floatOf_den _ _ _ _ hf
  · split at heq
    · next hf =>
      cases heq
      exact floatOf_den _ _ _ _ hf
    · cases heq
  · split at heq
    · next hf =>
      cases heq
      exact floatOf_den _ _ _ _ hf
    · cases heq
  · cases heq

theorem timedCore_decided {disc t : Str} {dist : Option Nat} (hg : getDistance 8 disc = .ok dist) {h m c : Nat}
    (hr : timedCore disc t = .time h m c) :
    ∃ h0 m0 sn0 dc0, timedDecide disc dist h0 m0 sn0 (10 ^ dc0) dc0 = .time h m c := by
  rw [timedCore_eq disc t dist hg] at hr
  split at hr
  · cases hr
  · next h0 m0 sn0 sd0 dc0 heq =>
    refine ⟨h0, m0, sn0, dc0, ?_⟩
    rw [← parseChunks_den _ h0 m0 sn0 sd0 dc0 heq]
    exact hr

theorem fmt2_no_colon (c : Nat) : ':' ∉ fmt2 c := by
  simp [fmt2, no_colon _ (allDig_natStr _), no_colon _ (allDig_twoDigits _)]

theorem fmt2_length (c : Nat) (hc : c < 10000) : (fmt2 c).length ≤ 5 := by
  have := render_length_le (c / 100) 2 (by omega) (by omega)
  simp only [fmt2, twoDigits, natStr_eq_render, List.length_append, List.length_cons, List.length_nil]
  omega

theorem stripTime_short (t : Str) (h : t.length ≤ 5) : stripTime t = t := by
  unfold stripTime
  rw [if_neg (by omega)]

theorem go_stop (n : Nat) (s : Str) (h : (s.getLast? == some '0' && decide (s.length > 4)) = false) : stripTime.go (n + 1) s = s := by
  simp only [stripTime.go, h, Bool.false_eq_true, if_false]

theorem go_drop (n : Nat) (s : Str) (h : (s.getLast? == some '0' && decide (s.length > 4)) = true) :
    stripTime.go (n + 1) s = stripTime.go n s.dropLast := by
  simp only [stripTime.go, h, if_true]

theorem stripTime_mss (pre : Str) (a b e f : Char) (hp : 2 ≤ pre.length) (he : e ≠ '.') (hf : f ≠ '.') :
    stripTime (pre ++ [a, b, '.', e, f]) =
      if f ≠ '0' then pre ++ [a, b, '.', e, f]
      else if e ≠ '0' then pre ++ [a, b, '.', e]
      else pre ++ [a, b] := by
  have hlen : (pre ++ [a, b, '.', e, f]).length = pre.length + 5 := by simp
  unfold stripTime
  rw [if_pos (by rw [hlen]; omega), hlen]
  simp only
  by_cases h1 : f = '0'
  · subst h1
    rw [go_drop _ _ (by simp)]
    have hd1 : (pre ++ [a, b, '.', e, '0']).dropLast = pre ++ [a, b, '.', e] := by
      rw [List.dropLast_append_of_ne_nil (by simp)]; rfl
    rw [hd1]
    by_cases h2 : e = '0'
    · subst h2
      obtain ⟨k, hk⟩ : ∃ k, pre.length + 4 = k + 1 := ⟨pre.length + 3, by omega⟩
      rw [hk, go_drop _ _ (by simp; omega)]
      have hd2 : (pre ++ [a, b, '.', '0']).dropLast = pre ++ [a, b, '.'] := by
        rw [List.dropLast_append_of_ne_nil (by simp)]; rfl
      rw [hd2]
      obtain ⟨k2, hk2⟩ : ∃ k2, k = k2 + 1 := ⟨k - 1, by omega⟩
      rw [hk2, go_stop _ _ (by simp)]
      have hd3 : (pre ++ [a, b, '.']).dropLast = pre ++ [a, b] := by
        rw [List.dropLast_append_of_ne_nil (by simp)]; rfl
      simp [hd3]
    · obtain ⟨k, hk⟩ : ∃ k, pre.length + 4 = k + 1 := ⟨pre.length + 3, by omega⟩
      rw [hk, go_stop _ _ (by simp [h2])]
      simp [h2, he]
  · rw [go_stop _ _ (by simp [h1])]
    simp [h1, hf]

theorem fmt52_eq (c : Nat) (hc : c < 10000) : fmt52 c = twoDigits (c / 100) ++ '.' :: twoDigits (c % 100) := by
  unfold fmt52 fmt2
  rw [twoDigits_eq (c / 100)]
  by_cases h : c / 100 < 10
  · rw [if_pos h, natStr_lt10 _ h, show c / 100 / 10 % 10 = 0 by omega, show c / 100 % 10 = c / 100 by omega]
    rfl
  · rw [if_neg h, natStr_lt100 _ (by omega) (by omega), show c / 100 / 10 % 10 = c / 100 / 10 by omega]
    rfl

/-- `pre ++ "%05.2f"` stripped is `pre ++ sec`: no colon, a point unless whole, read back as `n / 10 ^ k = c / 100` -/
theorem stripTime_fmt52 (hA : asciiDigitsOK = true) (pre : Str) (hp : 2 ≤ pre.length) (c : Nat) (hc : c < 6000) :
    ∃ sec n k, stripTime (pre ++ fmt52 c) = pre ++ sec ∧ ':' ∉ sec ∧ (c % 100 ≠ 0 → '.' ∈ sec) ∧
      floatOf sec = some (n, 10 ^ k, k) ∧ k ≤ 2 ∧ n * 100 = c * 10 ^ k := by
  have he : c % 100 / 10 % 10 < 10 := by omega
  have hf : c % 100 % 10 < 10 := by omega
  have ndot : ∀ d, d < 10 → digitChar0 d ≠ '.' := fun d hd e => by
    have := isDig_digitChar0 d hd
    rw [e] at this
    cases this
  have dab := allDig_twoDigits (c / 100)
  have vab := val_twoDigits (c / 100)
  rw [show c / 100 % 100 = c / 100 by omega] at vab
  have colon : ∀ (fp : Str), allDig fp = true → ':' ∉ twoDigits (c / 100) ++ '.' :: fp := by
    intro fp hfp
    simp only [List.mem_append, List.mem_cons, no_colon _ dab, no_colon _ hfp, or_false, false_or]
    decide
  have hfive : twoDigits (c / 100) ++ '.' :: twoDigits (c % 100) =
      [_, _, '.', digitChar0 (c % 100 / 10 % 10), digitChar0 (c % 100 % 10)] := rfl
  rw [fmt52_eq c (by omega), hfive, stripTime_mss _ _ _ _ _ hp (ndot _ he) (ndot _ hf)]
  split
  -- `ss.cc`: nothing is stripped, k = 2
  · next hF =>
    refine ⟨_, _, 2, rfl, colon _ (allDig_twoDigits (c % 100)), fun _ => by simp,
      floatOf_decimal hA _ (twoDigits (c % 100)) dab (allDig_twoDigits _) (Or.inl (by simp [twoDigits])), by omega, ?_⟩
    rw [vab, val_twoDigits]
    simp only [twoDigits, List.length_cons, List.length_nil]
    omega
  · next hF =>
    have f0 : c % 100 % 10 = 0 := (digitChar0_eq_zero _ hf).1 (Decidable.not_not.1 hF)
    split
    -- `ss.c`: the last zero is stripped, k = 1
    · next hE =>
      have dfp : allDig [digitChar0 (c % 100 / 10 % 10)] = true := by simp [allDig, isDig_digitChar0, he]
      refine ⟨_, _, 1, rfl, colon _ dfp, fun _ => by simp, floatOf_decimal hA _ _ dab dfp (Or.inl (by simp [twoDigits])),
        by omega, ?_⟩
      rw [vab, val_singleton, dval_digitChar0 _ he]
      simp only [List.length_cons, List.length_nil]
      omega
    -- `ss`: both zeros and the point are stripped, k = 0
    · next hE =>
      have e0 : c % 100 / 10 % 10 = 0 := (digitChar0_eq_zero _ he).1 (Decidable.not_not.1 hE)
      refine ⟨_, c / 100, 0, rfl, no_colon _ dab, fun h => absurd (by omega) h, ?_, by omega, by omega⟩
      exact (floatOf_digits hA _ (by simp [twoDigits]) dab).trans (by rw [vab])

/-- `a:rest` with `a > 0` as `natStr` prints it is not re-read: a positive number is not printed with a leading zero
    (`natStr_head`), so no `0:` / `00:` is dropped; the colon, `hlo` and `h3` exclude the other three re-readings -/
theorem timedCore_fields (disc : Str) (dist : Option Nat) (hg : getDistance 8 disc = .ok dist) (a : Nat) (ha : 0 < a)
    (rest : Str) (hlo : '.' ∉ rest → ∀ d, dist = some d → d = 0 ∨ 200 < d)
    (h3 : strIn disc ["800", "1500", "3000"] = true → '.' ∉ rest → (splitOn ':' rest).length ≠ 2) :
    timedCore disc (natStr a ++ ':' :: rest) = match parseChunks (natStr a :: splitOn ':' rest) with
      | none => .refused
      | some (hours0, minutes0, (sn0, sd0, sdecs0)) => timedDecide disc dist hours0 minutes0 sn0 sd0 sdecs0 := by
  obtain ⟨c0, tl, e, hne0⟩ := natStr_head a ha
  have hsp := splitOn_append ':' (natStr a) rest (no_colon _ (allDig_natStr a))
  rw [timedCore_eq disc _ dist hg, reread_clean disc _ dist, hsp]
  -- `h0`: the text does not begin `0:`, its first character is not `0`
  · rw [e]
    exact startsWith_head_ne _ _ "0:" '0' [':'] rfl hne0
  -- `h00`: nor `00:`
  · rw [e]
    exact startsWith_head_ne _ _ "00:" '0' ['0', ':'] rfl hne0
  -- `hlo`, colon read as point: a text without a point has none in `rest`, so `hlo` applies
  · exact fun _ hd => hlo fun hr => hd (by simp [hr])
  -- `hhi`, point read as colon: the text has a colon
  · exact fun hn => absurd (by simp) hn
  -- `h3`, `a:b:c` read as `a:b.c`: the text has one field more than `rest`, so `h3` applies
  · intro hs hd
    rw [hsp, List.length_cons]
    have := h3 hs fun hr => hd (by simp [hr])
    omega

/-- the text the validator prints for an accepted time is accepted again, as the same time, unless one of the re-readings
    applies to it: whole seconds (no point is printed) after a colon up to 200 m (the colon is read as a point) or with an
    hours field for 800 / 1500 / 3000 (`h:mm:ss` is read as `mm:ss.cc`); plain seconds from 800 m (the point is read as a
    colon).  An event without a distance, or with distance 0, has none of the first and last. -/
theorem timedCore_formatTime (hA : asciiDigitsOK = true) (disc t : Str) (dist : Option Nat) (h m c : Nat)
    (hg : getDistance 8 disc = .ok dist) (hr : timedCore disc t = .time h m c)
    (hlo : 0 < h ∨ 0 < m → c % 100 = 0 → ∀ d, dist = some d → d = 0 ∨ 200 < d)
    (hhi : h = 0 → m = 0 → ∀ d, dist = some d → d < 800)
    (hno : 0 < h → c % 100 = 0 → strIn disc ["800", "1500", "3000"] = false) :
    timedCore disc (formatTime h m c) = .time h m c := by
  obtain ⟨h0, m0, sn0, dc0, hdec⟩ := timedCore_decided hg hr
  obtain ⟨hgd, hc100⟩ := timedDecide_centi hdec
  obtain ⟨_, _, _, hc60, hm60, _⟩ := timedGuards_eq_time.1 hgd
  unfold formatTime
  by_cases hh : h > 0
  -- `h:mm:ss`
  · have hc : c < 6000 := by
      have := hc60 (Or.inl hh)
      omega
    obtain ⟨sec, n, k, e, hsec, hdot, hf, hk, hn⟩ := stripTime_fmt52 hA (natStr h ++ [':'] ++ twoDigits m ++ [':'])
      (by simp [twoDigits]) c hc
    have hsp : splitOn ':' (twoDigits m ++ ':' :: sec) = [twoDigits m, sec] := by
      rw [splitOn_append ':' _ sec (no_colon _ (allDig_twoDigits m)), splitOn_nosep ':' sec hsec]
    have hc0 : '.' ∉ twoDigits m ++ ':' :: sec → c % 100 = 0 := fun hd =>
      Decidable.not_not.1 fun hne => hd (by simp [hdot hne])
    have hpm : pyInt (twoDigits m) = .ok m := by
      rw [pyInt_eq_val hA _ (by simp [twoDigits]) (allDig_twoDigits m), val_twoDigits]
      congr 1
      have := hm60 hh
      omega
    have hshape : natStr h ++ [':'] ++ twoDigits m ++ [':'] ++ sec = natStr h ++ ':' :: (twoDigits m ++ ':' :: sec) := by
      simp
    -- the colons are not read as points: the rest has no point only when the seconds are whole, and then `hlo` applies
    have hcolon : '.' ∉ twoDigits m ++ ':' :: sec → ∀ d, dist = some d → d = 0 ∨ 200 < d :=
      fun hd => hlo (Or.inl hh) (hc0 hd)
    -- `h:mm:ss` is not read as `mm:ss.cc`: with whole seconds the code is none of the three, by `hno`
    have hthree : strIn disc ["800", "1500", "3000"] = true → '.' ∉ twoDigits m ++ ':' :: sec →
        (splitOn ':' (twoDigits m ++ ':' :: sec)).length ≠ 2 :=
      fun hs hd => absurd hs (by simp [hno hh (hc0 hd)])
    rw [if_pos hh, e, hshape, timedCore_fields disc dist hg h hh _ (hlo := hcolon) (h3 := hthree), hsp]
    simp only [parseChunks, pyInt_natStr hA, hpm, hf]
    exact timedDecide_again hdec hk hn
  · rw [if_neg hh]
    have hh0 : h = 0 := by omega
    subst hh0
    by_cases hm : m > 0
    -- `m:ss`
    · have hc : c < 6000 := by
        have := hc60 (Or.inr hm)
        omega
      have hpre : 2 ≤ (natStr m ++ [':']).length := by
        have := List.length_pos_iff.2 (natStr_ne_nil m)
        simp only [List.length_append, List.length_cons, List.length_nil]
        omega
      obtain ⟨sec, n, k, e, hsec, hdot, hf, hk, hn⟩ := stripTime_fmt52 hA (natStr m ++ [':']) hpre c hc
      have hsp := splitOn_nosep ':' sec hsec
      have hshape : natStr m ++ [':'] ++ sec = natStr m ++ ':' :: sec := by simp
      -- the colon is not read as a point: `sec` has no point only when the seconds are whole, and then `hlo` applies
      have hcolon : '.' ∉ sec → ∀ d, dist = some d → d = 0 ∨ 200 < d :=
        fun hd => hlo (Or.inr hm) (Decidable.not_not.1 fun hne => hd (hdot hne))
      -- the `a:b:c` re-reading of 800 / 1500 / 3000 needs three fields: there are two
      have hthree : strIn disc ["800", "1500", "3000"] = true → '.' ∉ sec → (splitOn ':' sec).length ≠ 2 := by
        rw [hsp]; simp
      rw [if_pos hm, e, hshape, timedCore_fields disc dist hg m hm _ (hlo := hcolon) (h3 := hthree), hsp]
      simp only [parseChunks, pyInt_natStr hA, hf]
      exact timedDecide_again hdec hk hn
    -- `ss.cc`
    · rw [if_neg hm]
      have hm0 : m = 0 := by omega
      subst hm0
      have hcol := fmt2_no_colon c
      have hsp := splitOn_nosep ':' (fmt2 c) hcol
      -- there is no colon to read as a point
      have hcolon : ':' ∈ fmt2 c → '.' ∉ fmt2 c → ∀ d, dist = some d → d = 0 ∨ 200 < d := fun hc => absurd hc hcol
      -- the point is not read as a colon: that is from 800 m, which `hhi` excludes
      have hpoint : ':' ∉ fmt2 c → ∀ d, dist = some d → d < 800 := fun _ => hhi rfl rfl
      -- the `a:b:c` re-reading needs three fields: there is one
      have hthree : strIn disc ["800", "1500", "3000"] = true → '.' ∉ fmt2 c → (splitOn ':' (fmt2 c)).length ≠ 3 := by
        rw [hsp]; simp
      rw [stripTime_short _ (fmt2_length c (hc100 rfl)), timedCore_eq disc _ dist hg, reread_clean disc _ dist
        (h0 := startsWith_false _ "0:" ':' (by decide) hcol) (h00 := startsWith_false _ "00:" ':' (by decide) hcol)
        (hlo := hcolon) (hhi := hpoint) (h3 := hthree), hsp]
      simp only [parseChunks, floatOf_fmt2 hA, Option.map_some]
      exact timedDecide_again hdec (k := 2) (by omega) rfl

end AthlibVerif.Perf
