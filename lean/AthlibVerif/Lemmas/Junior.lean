import AthlibVerif.Model.Junior
import AthlibVerif.Lemmas.ListFacts
/-! Each junior scoring system's points are a monotone function of one scalar:
    every Tyrving evaluator is the floor of `c + d · m` with `d` the signed distance of the mark from a base mark
    (computed as `⌊(c·S + d·mN) / S⌋`: the multipliers are kept as integers `mN` over one denominator `S`,
    `Gen.tyrvingScale`),
    the QuadKids raw score rises with the margin over the 10-point mark, the Hungarian parabola with the squared
    distance from its vertex; the Sportshall look-up is the greatest row reached, the Bulgarian one the run that
    contains the mark.  Whether smaller or larger marks are better enters only in how that scalar depends on the
    mark, so the two directions share their proofs.  The Sportshall part also holds what C11's reachability
    rests on (`lookupBest_self`, `Above`, `points_self_of_sorted`): in a sorted table a row is returned at its
    own threshold.  Core Lean only. -/
namespace AthlibVerif.Junior

theorem ediv_mono (a b : Int) (c : Nat) (h : a ≤ b) : a / (c : Int) ≤ b / (c : Int) := by
  rcases Nat.eq_zero_or_pos c with h0 | h0
  · subst h0; simp
  · exact Int.ediv_le_ediv (by exact_mod_cast h0) h

theorem floorNat_mono (n m : Int) (d : Nat) (h : n ≤ m) : floorNat n d ≤ floorNat m d :=
  Int.toNat_le_toNat (ediv_mono n m d h)

theorem mul_natCast_mono (a b : Int) (m : Nat) (h : a ≤ b) : a * m ≤ b * m :=
  Int.mul_le_mul_of_nonneg_right h (Int.natCast_nonneg m)

theorem floorNat_affine_mono (c d d' : Int) (m S : Nat) (h : d ≤ d') :
    floorNat (c + d * m) S ≤ floorNat (c + d' * m) S :=
  floorNat_mono _ _ _ (Int.add_le_add_left (mul_natCast_mono d d' m h) c)

namespace Tyrving

/-- join condition of the three-piece formula: the second level lies below the first, and the points fixed
    for the second level do not exceed what the middle piece gives there -/
def stavJoin (S m1 L0 L1 P2 : Nat) : Prop := L1 ≤ L0 ∧ P2 * S + (L0 - L1) * m1 ≤ 1000 * S

instance (S m1 L0 L1 P2 : Nat) : Decidable (stavJoin S m1 L0 L1 P2) := by unfold stavJoin; infer_instance

theorem stav_mono (S m0 m1 m2 L0 L1 P2 k k' : Nat) (hj : stavJoin S m1 L0 L1 P2) (h : k ≤ k') :
    stav S m0 m1 m2 L0 L1 P2 k ≤ stav S m0 m1 m2 L0 L1 P2 k' := by
  -- Each piece rises with the mark.  The last piece ends at `L1` with `P2·S`, the middle one runs from at least
  -- `P2·S` just above `L1` (the join condition) to at most `1000·S` below `L0`, the first one starts at `1000·S`:
  -- so a mark in a lower piece never beats one in a higher piece.  `omega` sees the products as atoms, each
  -- bounded by an instance of `mul_natCast_mono`.
  obtain ⟨h10, hP⟩ := hj
  have hP' : (P2 : Int) * S ≤ 1000 * S + ((L1 : Int) - L0) * m1 := by
    have e : ((L1 : Int) - L0) * m1 = -(((L0 : Int) - L1) * m1) := by
      rw [← Int.neg_mul, Int.neg_sub]
    have := Int.ofNat_le.2 hP
    rw [Int.natCast_add, Int.natCast_mul, Int.natCast_mul, Int.natCast_mul, Int.natCast_sub h10] at this
    omega
  unfold stav
  simp only
  by_cases a0 : (0 : Int) ≤ (k : Int) - L0
  · rw [if_pos a0, if_pos (by omega)]
    exact floorNat_affine_mono _ _ _ _ _ (by omega)
  · rw [if_neg a0]
    by_cases a1 : (0 : Int) < (k : Int) - L1
    · rw [if_pos a1]
      by_cases b0 : (0 : Int) ≤ (k' : Int) - L0
      · -- middle piece ≤ `1000·S` ≤ first piece
        rw [if_pos b0]
        apply floorNat_mono
        have := mul_natCast_mono ((k : Int) - L0) 0 m1 (by omega)
        have := mul_natCast_mono 0 ((k' : Int) - L0) m0 b0
        omega
      · rw [if_neg b0, if_pos (by omega)]
        exact floorNat_affine_mono _ _ _ _ _ (by omega)
    · rw [if_neg a1]
      by_cases b0 : (0 : Int) ≤ (k' : Int) - L0
      · -- last piece ≤ `P2·S` ≤ the middle piece at `L1` ≤ `1000·S` ≤ first piece
        rw [if_pos b0]
        apply floorNat_mono
        have := mul_natCast_mono ((k : Int) - L1) 0 m2 (by omega)
        have := mul_natCast_mono ((L1 : Int) - L0) 0 m1 (by omega)
        have := mul_natCast_mono 0 ((k' : Int) - L0) m0 b0
        omega
      · rw [if_neg b0]
        by_cases b1 : (0 : Int) < (k' : Int) - L1
        · -- last piece ≤ `P2·S` ≤ the middle piece at `L1` ≤ the middle piece at `k'`
          rw [if_pos b1]
          apply floorNat_mono
          have := mul_natCast_mono ((k : Int) - L1) 0 m2 (by omega)
          have := mul_natCast_mono ((L1 : Int) - L0) ((k' : Int) - L0) m1 (by omega)
          omega
        · rw [if_neg b1]
          exact floorNat_affine_mono _ _ _ _ _ (by omega)

end Tyrving

namespace Qkids

theorem raw_mono (incN incD base k k' : Nat) (run : Bool) (h : if run then k' ≤ k else k ≤ k') :
    raw incN incD run base k ≤ raw incN incD run base k' := by
  unfold raw
  refine Int.add_le_add_right (ediv_mono _ _ _ (mul_natCast_mono _ _ _ ?_)) _
  cases run
  · simp only [Bool.false_eq_true, if_false] at h ⊢
    omega
  · simp only [if_true] at h ⊢
    omega

theorem points_mono_of_raw (incN incD base k k' : Nat) (run run' : Bool)
    (h : raw incN incD run base k ≤ raw incN incD run' base k') :
    points incN incD run base k ≤ points incN incD run' base k' := by
  unfold points; omega

end Qkids

namespace Sportshall

/-- upper half of the look-up's specification: every row the mark reaches has at most the returned points -/
theorem lookupBest_ge (high : Bool) (rows : List (Nat × Nat)) (k : Nat) (r : Nat × Nat) (hr : r ∈ rows)
    (hk : reach high r.2 k = true) : r.1 ≤ lookupBest high rows k := by
  induction rows with
  | nil => cases hr
  | cons r' rs ih =>
    simp only [lookupBest]
    rcases List.mem_cons.1 hr with rfl | hm
    · rw [if_pos hk]; omega
    · have := ih hm
      split <;> omega

/-- lower half: the returned points are 0 (no row reached) or those of a row the mark reaches -/
theorem lookupBest_mem (high : Bool) (rows : List (Nat × Nat)) (k : Nat) :
    (lookupBest high rows k = 0 ∧ ∀ r ∈ rows, reach high r.2 k = true → r.1 = 0) ∨
    ∃ r ∈ rows, reach high r.2 k = true ∧ r.1 = lookupBest high rows k := by
  induction rows with
  | nil => left; simp [lookupBest]
  | cons r' rs ih =>
    simp only [lookupBest]
    by_cases hk : reach high r'.2 k = true
    · rw [if_pos hk]
      rcases Nat.le_total (lookupBest high rs k) r'.1 with hle | hle
      · right; exact ⟨r', by simp, hk, by omega⟩
      · rcases ih with ⟨h0, _⟩ | ⟨r, hr, hrk, hp⟩
        · right; exact ⟨r', by simp, hk, by omega⟩
        · right; exact ⟨r, by simp [hr], hrk, by omega⟩
    · rw [if_neg hk]
      rcases ih with ⟨h0, hall⟩ | ⟨r, hr, hrk, hp⟩
      · left
        refine ⟨h0, ?_⟩
        intro r hr hrk
        rcases List.mem_cons.1 hr with rfl | hm
        · exact absurd hrk hk
        · exact hall r hm hrk
      · right; exact ⟨r, by simp [hr], hrk, hp⟩

theorem lookupBest_le (high : Bool) (rows : List (Nat × Nat)) (k M : Nat) (h : ∀ r ∈ rows, r.1 ≤ M) :
    lookupBest high rows k ≤ M := by
  rcases lookupBest_mem high rows k with ⟨h0, _⟩ | ⟨r, hr, _, hp⟩
  · omega
  · exact hp ▸ h r hr

/-- a mark that reaches every threshold another mark reaches never scores less -/
theorem lookupBest_mono (high : Bool) (rows : List (Nat × Nat)) (k k' : Nat)
    (h : ∀ t, reach high t k = true → reach high t k' = true) :
    lookupBest high rows k ≤ lookupBest high rows k' := by
  induction rows with
  | nil => simp [lookupBest]
  | cons r rs ih =>
    simp only [lookupBest]
    by_cases hk : reach high r.2 k = true
    · rw [if_pos hk, if_pos (h _ hk)]; omega
    · rw [if_neg hk]; split <;> omega

/-- "better or equal" in the direction of the event -/
def better (high : Bool) (k k' : Nat) : Prop := if high then k ≤ k' else k' ≤ k

theorem reach_of_better (high : Bool) (k k' : Nat) (h : better high k k') (t : Nat) :
    reach high t k = true → reach high t k' = true := by
  unfold better at h
  unfold reach
  cases high <;> simp at h ⊢ <;> omega

theorem steps_mono (incN incD x y : Nat) (h : x ≤ y) : steps incN incD x ≤ steps incN incD y := by
  unfold steps
  split
  · exact Nat.le_refl _
  · exact Nat.div_le_div_right (Nat.mul_le_mul_right _ h)

theorem points_eq (e : ShEvent) (k maxP maxT : Nat) (hl : e.rows.getLast? = some (maxP, maxT)) :
    points e k = if (if e.high then maxT < k else k < maxT)
      then maxP + steps e.incN e.incD (if e.high then k - maxT else maxT - k) * e.incPts
      else lookupBest e.high e.rows k := by
  unfold points
  rw [hl]
  cases e.high <;> rfl

theorem points_mono (e : ShEvent) (k k' : Nat)
    (hs : ∀ maxP maxT, e.rows.getLast? = some (maxP, maxT) → ∀ r ∈ e.rows, r.1 ≤ maxP)
    (h : better e.high k k') : points e k ≤ points e k' := by
  cases hl : e.rows.getLast? with
  | none => simp [points, hl]
  | some l =>
    obtain ⟨maxP, maxT⟩ := l
    rw [points_eq e k _ _ hl, points_eq e k' _ _ hl]
    -- a mark beyond the table stays beyond it, with at least the same excess, when it gets better
    have hb : (if e.high then maxT < k else k < maxT) → (if e.high then maxT < k' else k' < maxT) ∧
        (if e.high then k - maxT else maxT - k) ≤ (if e.high then k' - maxT else maxT - k') := by
      unfold better at h
      generalize e.high = b at h ⊢
      cases b <;> simp only [if_true, Bool.false_eq_true, if_false] at h ⊢ <;> omega
    by_cases hk : (if e.high then maxT < k else k < maxT)
    · rw [if_pos hk, if_pos (hb hk).1]
      exact Nat.add_le_add_left (Nat.mul_le_mul_right _ (steps_mono _ _ _ _ (hb hk).2)) _
    · rw [if_neg hk]
      by_cases hk' : (if e.high then maxT < k' else k' < maxT)
      · rw [if_pos hk']
        exact Nat.le_trans (lookupBest_le e.high e.rows k maxP (hs _ _ hl)) (Nat.le_add_right _ _)
      · rw [if_neg hk']
        exact lookupBest_mono e.high e.rows k k' (reach_of_better _ k k' h)

theorem lookupBest_self (high : Bool) (rows : List (Nat × Nat)) (r : Nat × Nat) (hr : r ∈ rows)
    (hno : ∀ r' ∈ rows, reach high r'.2 r.2 = true → r'.1 ≤ r.1) : lookupBest high rows r.2 = r.1 := by
  have hself : reach high r.2 r.2 = true := by unfold reach; cases high <;> simp
  have h1 := lookupBest_ge high rows r.2 r hr hself
  rcases lookupBest_mem high rows r.2 with ⟨h0, _⟩ | ⟨r', hr', hk', hp⟩
  · omega
  · have := hno r' hr' hk'; omega

/-- `a` is listed above `b` in a sorted table: the rows go from the fewest points to the most -/
def Above (high : Bool) (a b : Nat × Nat) : Prop := a.1 < b.1 ∧ reach high a.2 b.2 = true

theorem reach_antisymm {high : Bool} {s t : Nat} (h1 : reach high s t = true) (h2 : reach high t s = true) : s = t := by
  unfold reach at h1 h2
  cases high
  · simp only [Bool.false_eq_true, if_false, decide_eq_true_eq] at h1 h2; omega
  · simp only [if_true, decide_eq_true_eq] at h1 h2; omega

theorem reach_trans {high : Bool} {s t u : Nat} (h1 : reach high s t = true) (h2 : reach high t u = true) :
    reach high s u = true := by
  unfold reach at h1 h2 ⊢
  cases high
  · simp only [Bool.false_eq_true, if_false, decide_eq_true_eq] at h1 h2 ⊢; omega
  · simp only [if_true, decide_eq_true_eq] at h1 h2 ⊢; omega

theorem points_self_of_sorted (e : ShEvent) (hs : e.rows.Pairwise (Above e.high)) (r : Nat × Nat) (hr : r ∈ e.rows) :
    points e r.2 = r.1 ∨ ∃ r' ∈ e.rows, r'.2 = r.2 ∧ r.1 < r'.1 := by
  by_cases hdup : ∃ r' ∈ e.rows, r'.2 = r.2 ∧ r.1 < r'.1
  · exact Or.inr hdup
  left
  have hlook : lookupBest e.high e.rows r.2 = r.1 := by
    apply lookupBest_self _ _ _ hr
    intro r' hr' hreach
    rcases pairwise_mem_cases hs hr hr' with rfl | h | h
    · exact Nat.le_refl _
    · exact absurd ⟨r', hr', reach_antisymm hreach h.2, h.1⟩ hdup
    · exact Nat.le_of_lt h.1
  cases hl : e.rows.getLast? with
  | none => rw [List.getLast?_eq_none_iff.1 hl] at hr; cases hr
  | some m =>
    -- the threshold of `r` is not beyond that of the last row, so the look-up answers
    have hm : reach e.high r.2 m.2 = true := by
      -- the last row stands below every other
      obtain ⟨init, hi⟩ := List.getLast?_eq_some_iff.1 hl
      rw [hi] at hs hr
      rcases List.mem_append.1 hr with hr | hr
      · exact ((List.pairwise_append.1 hs).2.2 r hr m (List.mem_singleton_self m)).2
      · rw [List.mem_singleton.1 hr]; unfold reach; cases e.high <;> simp
    rw [points_eq e r.2 m.1 m.2 hl, if_neg, hlook]
    unfold reach at hm
    generalize e.high = b at hm ⊢
    cases b
    · simp only [Bool.false_eq_true, if_false, decide_eq_true_eq] at hm ⊢; omega
    · simp only [if_true, decide_eq_true_eq] at hm ⊢; omega

end Sportshall

namespace Bulgarian

abbrev Run := Nat × Nat × Nat

theorem lookup_some (runs : List Run) (k p : Nat) (h : lookup runs k = some p) :
    ∃ r ∈ runs, r.1 ≤ k ∧ k ≤ r.2.1 ∧ r.2.2 = p := by
  obtain ⟨r, hf, hp⟩ := Option.map_eq_some_iff.1 h
  have h1 := List.find?_some hf
  simp only [Bool.and_eq_true, decide_eq_true_eq] at h1
  exact ⟨r, List.mem_of_find?_eq_some hf, h1.1, h1.2, hp⟩

/-- runs are disjoint, ascending, and their points go with the direction of the event -/
def Ordered (timed : Bool) (runs : List Run) : Prop :=
  runs.Pairwise (fun a b => a.2.1 < b.1 ∧ (if timed then b.2.2 ≤ a.2.2 else a.2.2 ≤ b.2.2))

def orderedB (timed : Bool) : List Run → Bool
  | [] => true
  | a :: l => l.all (fun b => decide (a.2.1 < b.1) && (if timed then decide (b.2.2 ≤ a.2.2) else decide (a.2.2 ≤ b.2.2))) && orderedB timed l

theorem ordered_of_orderedB (timed : Bool) (runs : List Run) (h : orderedB timed runs = true) : Ordered timed runs := by
  induction runs with
  | nil => exact List.Pairwise.nil
  | cons a l ih =>
    simp only [orderedB, Bool.and_eq_true, List.all_eq_true] at h
    refine List.Pairwise.cons ?_ (ih h.2)
    intro b hb
    have := h.1 b hb
    cases timed <;> simpa using this

/-- what the kernel decides on the regenerated tables (`Oblig/C05/Tables`, `Oblig/C11/Tables`): linear in the
    number of runs where `Ordered` is quadratic, and stronger (contiguous runs, strictly ordered points) -/
def chainB (timed : Bool) : List Run → Bool
  | [] => true
  | [a] => decide (a.1 ≤ a.2.1)
  | a :: b :: l => decide (a.1 ≤ a.2.1) && decide (a.2.1 + 1 = b.1) &&
      (if timed then decide (b.2.2 < a.2.2) else decide (a.2.2 < b.2.2)) && chainB timed (b :: l)

/-- adjacent runs are contiguous and none is empty, so every later run lies beyond the first one; the points are
    ordered along the chain by transitivity -/
theorem ordered_of_chainB (timed : Bool) : ∀ runs : List Run, chainB timed runs = true → Ordered timed runs
  | [], _ => List.Pairwise.nil
  | [_], _ => List.pairwise_singleton _ _
  | a :: b :: l, h => by
    simp only [chainB, Bool.and_eq_true, decide_eq_true_eq] at h
    obtain ⟨⟨⟨_, hab⟩, hp⟩, hbl⟩ := h
    have ih := ordered_of_chainB timed (b :: l) hbl
    have hb : b.1 ≤ b.2.1 := by
      cases l <;> simp only [chainB, Bool.and_eq_true, decide_eq_true_eq] at hbl <;> omega
    refine List.Pairwise.cons (fun c hc => ?_) ih
    rcases List.mem_cons.1 hc with rfl | hc
    · cases timed <;> simp only [if_true, Bool.false_eq_true, if_false, decide_eq_true_eq] at hp ⊢ <;> omega
    · have := List.rel_of_pairwise_cons ih hc
      cases timed <;> simp only [if_true, Bool.false_eq_true, if_false, decide_eq_true_eq] at hp this ⊢ <;> omega

theorem lookup_of_mem (timed : Bool) (runs : List Run) (k : Nat) (r : Run) (ho : Ordered timed runs)
    (hr : r ∈ runs) (h1 : r.1 ≤ k) (h2 : k ≤ r.2.1) : lookup runs k = some r.2.2 := by
  cases hf : lookup runs k with
  | none =>
    have := List.find?_eq_none.1 (Option.map_eq_none_iff.1 hf) r hr
    simp [h1, h2] at this
  | some p =>
    obtain ⟨r', hr', h1', h2', rfl⟩ := lookup_some runs k p hf
    -- `k` lies in `r` and in the run `r'` the look-up finds: two different runs of an ordered table are disjoint
    rcases pairwise_mem_cases ho hr hr' with rfl | h | h
    · rfl
    · -- `r` ends before `r'` begins: `k ≤ r.2.1 < r'.1 ≤ k`
      omega
    · -- `r'` ends before `r` begins: `k ≤ r'.2.1 < r.1 ≤ k`
      omega

theorem lookup_le (timed : Bool) (runs : List Run) (k k' p p' : Nat) (ho : Ordered timed runs)
    (h : if timed then k' ≤ k else k ≤ k') (hp : lookup runs k = some p) (hp' : lookup runs k' = some p') :
    p ≤ p' := by
  obtain ⟨r, hr, _, _, rfl⟩ := lookup_some runs k p hp
  obtain ⟨r', hr', _, _, rfl⟩ := lookup_some runs k' p' hp'
  rcases pairwise_mem_cases ho hr hr' with rfl | hrr | hrr
  · exact Nat.le_refl _
  · -- `r` before `r'`: not timed, `Ordered` gives the points' order; timed (`k' ≤ k`) is excluded, `k ≤ r.2.1 < r'.1 ≤ k'`
    cases timed <;> simp only [if_true, Bool.false_eq_true, if_false] at h hrr <;> omega
  · -- `r'` before `r`: timed, `Ordered` gives the points' order; not timed (`k ≤ k'`) is excluded, `k' ≤ r'.2.1 < r.1 ≤ k`
    cases timed <;> simp only [if_true, Bool.false_eq_true, if_false] at h hrr <;> omega

theorem points_eq (t : BgTable) (k : Nat) :
    points t k = if (if t.timed then t.minV < k else k < t.minV) then some 0
      else if (if t.timed then k < t.maxV else t.maxV < k) then some 150 else lookup t.runs k := by
  unfold points
  cases t.timed <;> rfl

theorem points_bounds (t : BgTable) (k p : Nat) (hb : ∀ r ∈ t.runs, r.2.2 ≤ 150) (hp : points t k = some p) : p ≤ 150 := by
  rw [points_eq] at hp
  by_cases h0 : (if t.timed then t.minV < k else k < t.minV)
  · rw [if_pos h0] at hp
    injection hp with hp
    omega
  · rw [if_neg h0] at hp
    by_cases h1 : (if t.timed then k < t.maxV else t.maxV < k)
    · rw [if_pos h1] at hp
      injection hp with hp
      omega
    · rw [if_neg h1] at hp
      obtain ⟨r, hr, _, _, rfl⟩ := lookup_some _ _ _ hp
      exact hb r hr

theorem points_le (t : BgTable) (k k' p p' : Nat) (ho : Ordered t.timed t.runs)
    (hb : ∀ r ∈ t.runs, r.2.2 ≤ 150) (h : if t.timed then k' ≤ k else k ≤ k')
    (hp : points t k = some p) (hp' : points t k' = some p') : p ≤ p' := by
  have hb' := points_bounds t k p hb hp
  rw [points_eq] at hp hp'
  -- a mark worse than `min` stays so when it gets worse, one better than `max` stays so when it gets better
  have hw : (if t.timed then t.minV < k' else k' < t.minV) → (if t.timed then t.minV < k else k < t.minV) := by
    generalize t.timed = b at h ⊢
    cases b <;> simp only [if_true, Bool.false_eq_true, if_false] at h ⊢ <;> omega
  have hx : (if t.timed then k < t.maxV else t.maxV < k) → (if t.timed then k' < t.maxV else t.maxV < k') := by
    generalize t.timed = b at h ⊢
    cases b <;> simp only [if_true, Bool.false_eq_true, if_false] at h ⊢ <;> omega
  by_cases h0 : (if t.timed then t.minV < k else k < t.minV)
  · rw [if_pos h0] at hp
    injection hp with hp
    omega
  · rw [if_neg h0] at hp
    rw [if_neg (fun c => h0 (hw c))] at hp'
    by_cases h1 : (if t.timed then k' < t.maxV else t.maxV < k')
    · rw [if_pos h1] at hp'
      injection hp' with hp'
      omega
    · rw [if_neg h1] at hp'
      rw [if_neg (fun c => h1 (hx c))] at hp
      exact lookup_le t.timed t.runs k k' p p' ho h hp hp'

end Bulgarian

namespace Hungarian

theorem dist_mono (r : HuRow) (k k' : Nat) (h : k ≤ k') : dist r k ≤ dist r k' :=
  Int.add_le_add_right (mul_natCast_mono _ _ _ (Int.ofNat_le.2 h)) _

theorem raw_le_of_sq_le (r : HuRow) (k k' : Nat) (h : dist r k ^ 2 ≤ dist r k' ^ 2) : raw r k ≤ raw r k' :=
  ediv_mono _ _ _ (Int.add_le_add_right
    (mul_natCast_mono _ _ _ (Int.mul_le_mul_of_nonneg_left h (Int.natCast_nonneg _))) _)

theorem sq_le_sq (a b : Int) (h : a.natAbs ≤ b.natAbs) : a ^ 2 ≤ b ^ 2 := by
  rw [Int.pow_succ, Int.pow_succ, Int.pow_zero, Int.one_mul, Int.pow_succ, Int.pow_succ, Int.pow_zero, Int.one_mul,
    ← Int.natAbs_mul_self' a, ← Int.natAbs_mul_self' b]
  exact_mod_cast Nat.mul_le_mul h h

/-- on the falling branch (`p ≤ −b`) a slower time never scores more -/
theorem raw_mono_timed (r : HuRow) (k k' : Nat) (h : k ≤ k') (hz : dist r k' ≤ 0) : raw r k' ≤ raw r k := by
  have := dist_mono r k k' h
  exact raw_le_of_sq_le r k' k (sq_le_sq _ _ (by omega))

/-- on the rising branch (`p ≥ −b`; all of `p ≥ 0` when `b ≥ 0`) a longer mark never scores less -/
theorem raw_mono_field (r : HuRow) (k k' : Nat) (h : k ≤ k') (hz : 0 ≤ dist r k) : raw r k ≤ raw r k' := by
  have := dist_mono r k k' h
  exact raw_le_of_sq_le r k k' (sq_le_sq _ _ (by omega))

theorem dist_nonneg_of_field (r : HuRow) (k : Nat) (hb : 0 ≤ r.bN) : 0 ≤ dist r k := by
  unfold dist
  have h1 : (0 : Int) ≤ (k : Int) * r.bD := Int.mul_nonneg (Int.natCast_nonneg _) (Int.natCast_nonneg _)
  omega

/-- the repaired score of a timed event is monotone over the whole grid: zero from the zero point on -/
theorem points_mono_timed (r : HuRow) (k k' : Nat) (ht : timed r = true) (h : k ≤ k') : points r k' ≤ points r k := by
  unfold points
  rw [ht]
  by_cases hz : 0 < dist r k'
  · simp [hz]
  · have hd := dist_mono r k k' h
    have hk : ¬ 0 < dist r k := by omega
    simp only [Bool.true_and, decide_eq_true_eq, hz, hk, if_false]
    exact Int.toNat_le_toNat (raw_mono_timed r k k' h (by omega))

theorem points_mono_field (r : HuRow) (k k' : Nat) (ht : timed r = false) (h : k ≤ k') : points r k ≤ points r k' := by
  unfold points
  rw [ht]
  simp only [Bool.false_and, Bool.false_eq_true, if_false]
  have hb : 0 ≤ r.bN := by simpa [timed] using ht
  exact Int.toNat_le_toNat (raw_mono_field r k k' h (dist_nonneg_of_field r k hb))

end Hungarian

end AthlibVerif.Junior
