import AthlibVerif.Model.Times
import AthlibVerif.Lemmas.Digits
/-! `round_up_str_num` after the split at the dot writes the ceiling, at `p` decimals, of the number it read
(`roundUpCore_spec`); the ceiling is stated without division (`IsCeil`). -/
namespace AthlibVerif.Times
open AthlibVerif.Digits

/-- `N = ⌈a / b⌉` -/
def IsCeil (N a b : Nat) : Prop := a ≤ N * b ∧ N * b < a + b

theorem IsCeil.unique {N M a b : Nat} (h1 : IsCeil N a b) (h2 : IsCeil M a b) : N = M := by
  obtain ⟨a1, b1⟩ := h1; obtain ⟨a2, b2⟩ := h2
  rcases Nat.lt_trichotomy N M with h | h | h
  · exfalso
    have : (N + 1) * b ≤ M * b := Nat.mul_le_mul_right _ h
    rw [Nat.add_mul] at this; omega
  · exact h
  · exfalso
    have : (M + 1) * b ≤ N * b := Nat.mul_le_mul_right _ h
    rw [Nat.add_mul] at this; omega

theorem IsCeil.exact {N a b : Nat} (hb : 0 < b) (h : IsCeil N (a * b) b) : N = a :=
  h.unique ⟨Nat.le_refl _, by omega⟩

theorem isCeil_iff_ceilDiv (N a b : Nat) (hb : 0 < b) : IsCeil N a b ↔ N = (a + b - 1) / b := by
  have hq : IsCeil ((a + b - 1) / b) a b := by
    have h1 := Nat.div_add_mod (a + b - 1) b
    have h2 := Nat.mod_lt (a + b - 1) hb
    unfold IsCeil
    rw [Nat.mul_comm]
    generalize b * ((a + b - 1) / b) = bq at *
    omega
  constructor
  · intro h; exact h.unique hq
  · intro h; rw [h]; exact hq

theorem splitDot_nodot (l : List Char) (h : '.' ∉ l) : splitDot l = (l, none) := by
  induction l with
  | nil => rfl
  | cons c cs ih =>
    have hc : c ≠ '.' := fun e => h (by simp [e])
    have hcs : '.' ∉ cs := fun e => h (by simp [e])
    simp only [splitDot, hc, if_false, ih hcs]

theorem splitDot_dot (a b : List Char) (h : '.' ∉ a) : splitDot (a ++ '.' :: b) = (a, some b) := by
  induction a with
  | nil => simp [splitDot]
  | cons c cs ih =>
    have hc : c ≠ '.' := fun e => h (by simp [e])
    have hcs : '.' ∉ cs := fun e => h (by simp [e])
    simp only [List.cons_append, splitDot, hc, if_false, ih hcs]

theorem dot_not_mem (l : List Char) (h : allDig l = true) : '.' ∉ l :=
  not_mem_of_allDig l '.' h (by decide)

theorem render_one : render 1 = ['1'] := by decide

structure CarrySpec (i f : List Char) (p : Nat) (i' f' : List Char) : Prop where
  ne : i' ≠ []
  di : allDig i' = true
  df : allDig f' = true
  len : f'.length = p
  value : val i' * 10 ^ p + val f' = val (i ++ f) + 1
  /-- feeds `CoreSpec.one` -/
  one : val (i ++ f) + 1 < 10 ^ (p + 1) → i'.length = 1

/-- `carry` returns the incremented number `int(i ++ f) + 1`, re-split `p` digits from the right;
    `f'` is `(carry i f p).2` except at `p = 0`, where Python's `i[-0:]` is the whole string and `join` does not use it -/
theorem carry_spec (i f : List Char) (p : Nat) (hf : f.length = p) :
    ∃ f', join (carry i f p).1 (carry i f p).2 p = join (carry i f p).1 f' p ∧
      CarrySpec i f p (carry i f p).1 f' := by
  let i3 : List Char := if i ++ f ≠ [] then render (val (i ++ f) + 1) else ['1']
  have hi3 : i3 = render (val (i ++ f) + 1) := by
    show (if i ++ f ≠ [] then render (val (i ++ f) + 1) else ['1']) = _
    split
    · rfl
    · rename_i h; simp only [ne_eq, Decidable.not_not] at h; rw [h]; exact render_one.symm
  let i4 : List Char := if i3.length < p + 1 then zeros (p + 1 - i3.length) ++ i3 else i3
  have hcarry : carry i f p = (i4.take (i4.length - p), if p = 0 then i4 else i4.drop (i4.length - p)) := rfl
  have hv4 : val i4 = val (i ++ f) + 1 := by
    show val (if i3.length < p + 1 then zeros (p + 1 - i3.length) ++ i3 else i3) = _
    split
    · rw [val_zeros_append, hi3, val_render]
    · rw [hi3, val_render]
  have hd4 : allDig i4 = true := by
    show allDig (if i3.length < p + 1 then zeros (p + 1 - i3.length) ++ i3 else i3) = true
    split
    · rw [allDig_append, allDig_zeros, hi3, allDig_render]; rfl
    · rw [hi3, allDig_render]
  have hl4 : p + 1 ≤ i4.length := by
    show p + 1 ≤ (if i3.length < p + 1 then zeros (p + 1 - i3.length) ++ i3 else i3).length
    split
    · rw [List.length_append, zeros_length]; omega
    · omega
  have hl4' : val (i ++ f) + 1 < 10 ^ (p + 1) → i4.length = p + 1 := by
    intro hlt
    have h3 : i3.length ≤ p + 1 := by rw [hi3]; exact render_length_le _ _ (by omega) hlt
    show (if i3.length < p + 1 then zeros (p + 1 - i3.length) ++ i3 else i3).length = p + 1
    split
    · rw [List.length_append, zeros_length]; omega
    · omega
  rw [hcarry]
  refine ⟨i4.drop (i4.length - p), ?_, ?_⟩
  · simp only [join]; split <;> simp_all
  · refine ⟨?_, allDig_take _ _ hd4, allDig_drop _ _ hd4, ?_, ?_, ?_⟩
    · intro h
      have := congrArg List.length h
      simp only [List.length_take, List.length_nil] at this
      omega
    · rw [List.length_drop]; omega
    · have := val_take_drop i4 (i4.length - p)
      have e : i4.length - (i4.length - p) = p := by omega
      rw [e] at this
      show val (i4.take (i4.length - p)) * 10 ^ p + val (i4.drop (i4.length - p)) = _
      omega
    · intro hlt
      show (i4.take (i4.length - p)).length = 1
      rw [List.length_take, hl4' hlt]; omega

structure CoreSpec (i g : List Char) (p : Nat) (i' f' : List Char) : Prop where
  ne : i' ≠ []
  di : allDig i' = true
  df : allDig f' = true
  len : f'.length = p
  /-- the value written, `int(i').f'`, is the ceiling at `p` decimals of the value read, `int(i).g` -/
  ceil : IsCeil (val i' * 10 ^ p + val f') ((val i * 10 ^ g.length + val g) * 10 ^ p) (10 ^ g.length)
  /-- for `0.ddd` and `d.000` a one-character integer part stays one character: `format_seconds_as_time` takes the carry
  into the seconds from the first character of the result (`rup = frac[0]`) -/
  one : i.length = 1 → (val i = 0 ∨ val g = 0) → i'.length = 1

theorem val_orZero (i : List Char) : val (if i = [] then ['0'] else i) = val i := by
  split
  · rename_i h; rw [h]; decide
  · rfl

theorem allDig_orZero (i : List Char) (h : allDig i = true) : allDig (if i = [] then ['0'] else i) = true := by
  split
  · decide
  · exact h

theorem orZero_ne_nil (i : List Char) : (if i = [] then ['0'] else i) ≠ [] := by
  split
  · simp
  · assumption

theorem orZero_length_one (i : List Char) (h : i.length = 1) : (if i = [] then ['0'] else i).length = 1 := by
  split
  · rfl
  · exact h

theorem roundUpCore_spec (i g : List Char) (p : Nat) (hi : allDig i = true) (hg : allDig g = true) :
    ∃ i' f', roundUpCore i g p = join i' f' p ∧ CoreSpec i g p i' f' := by
  have hA : 0 < 10 ^ p := Nat.pow_pos (by omega)
  unfold roundUpCore
  by_cases hn : g.length > p
  · rw [if_pos hn]
    have hpow : 10 ^ g.length = 10 ^ p * 10 ^ (g.length - p) := by
      rw [← Nat.pow_add]; congr 1; omega
    have hB : 0 < 10 ^ (g.length - p) := Nat.pow_pos (by omega)
    have hsplit := val_take_drop g p
    have hr : val (g.drop p) < 10 ^ (g.length - p) := by
      have := val_lt (g.drop p); rwa [List.length_drop] at this
    have hlt : (g.take p).length = p := by rw [List.length_take]; omega
    by_cases ht : stripZeros (g.drop p) ≠ []
    · rw [if_pos ht]
      obtain ⟨f', hj, cs⟩ := carry_spec i (g.take p) p hlt
      refine ⟨_, f', hj, cs.ne, cs.di, cs.df, cs.len, ?_, ?_⟩
      · have hpos : 0 < val (g.drop p) := by
          rcases Nat.eq_zero_or_pos (val (g.drop p)) with h0 | h0
          · exact absurd ((stripZeros_eq_nil_iff _ (allDig_drop _ _ hg)).2 h0) ht
          · exact h0
        rw [cs.value, val_append, hlt]
        generalize val i = a at *
        generalize val (g.take p) = b at *
        generalize val (g.drop p) = r at *
        generalize 10 ^ (g.length - p) = B at *
        generalize 10 ^ p = A at *
        rw [hpow, hsplit]
        have h1 : r * A ≤ B * A := Nat.mul_le_mul_right _ (Nat.le_of_lt hr)
        have h2 : 0 < r * A := Nat.mul_pos hpos hA
        constructor <;> grind
      · intro h1 h0
        apply cs.one
        rw [val_append, hlt]
        have hb : val (g.take p) < 10 ^ p := by have := val_lt (g.take p); rwa [hlt] at this
        rcases h0 with h0 | h0
        · rw [h0, Nat.pow_succ]; omega
        · exfalso
          have hz : val (g.drop p) = 0 := by
            rw [h0] at hsplit; omega
          exact ht ((stripZeros_eq_nil_iff _ (allDig_drop _ _ hg)).2 hz)
    · rw [if_neg ht]
      have hz : val (g.drop p) = 0 := (stripZeros_eq_nil_iff _ (allDig_drop _ _ hg)).1 (by simpa using ht)
      refine ⟨_, g.take p, rfl, orZero_ne_nil i, allDig_orZero i hi, allDig_take _ _ hg, hlt, ?_, ?_⟩
      · rw [val_orZero]
        generalize val i = a at *
        generalize val (g.take p) = b at *
        generalize 10 ^ (g.length - p) = B at *
        generalize 10 ^ p = A at *
        rw [hpow, hsplit, hz]
        have h2 : 0 < A * B := Nat.mul_pos hA hB
        constructor <;> grind
      · intro h1 _; exact orZero_length_one i h1
  · rw [if_neg hn]
    have hpow : 10 ^ p = 10 ^ g.length * 10 ^ (p - g.length) := by
      rw [← Nat.pow_add]; congr 1; omega
    have hC : 0 < 10 ^ g.length := Nat.pow_pos (by omega)
    refine ⟨_, g ++ zeros (p - g.length), rfl, orZero_ne_nil i, allDig_orZero i hi, ?_, ?_, ?_, ?_⟩
    · rw [allDig_append, hg, allDig_zeros]; rfl
    · rw [List.length_append, zeros_length]; omega
    · rw [val_orZero, val_append_zeros]
      generalize val i = a at *
      generalize val g = c at *
      generalize 10 ^ (p - g.length) = D at *
      generalize 10 ^ g.length = C at *
      rw [hpow]
      constructor <;> grind
    · intro h1 _; exact orZero_length_one i h1

end AthlibVerif.Times
