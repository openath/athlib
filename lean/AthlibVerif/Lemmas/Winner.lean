import AthlibVerif.Lemmas.RankOrder
import AthlibVerif.Lemmas.Best
/-!
# One winner

In every reachable competition that is `won` or `finished` exactly one athlete is in first place; in a `drawn`
competition at least two are.  (`Decided`, an invariant of every accepted call: `Decided.accepts`.)  The decisions
are those of the tail of `_rank`, taken case by case in `Tail.decided`; that the second entry of the sorted ranked
list tells whether first place is shared comes from Lemmas/RankOrder.
-/
namespace AthlibVerif.HJ
open AthlibVerif.Ranking

def UniqueFirst (c : Comp) : Prop := (firsts c).length = 1

/-- `won` says more than `UniqueFirst`: that the one athlete still in has a clearance is what keeps them alone in first
    place through the trials that follow (`sole_survivor_first`). -/
structure Decided (c : Comp) : Prop where
  finished : c.phase = .finished → UniqueFirst c
  won : c.phase = .won → ∃ w, c.jumpers.filter (fun j => !j.eliminated) = [w] ∧ w.bestIdx.isSome = true ∧ UniqueFirst c
  drawn : c.phase = .drawn → 2 ≤ (firsts c).length

theorem firsts_congr (a b : Comp) (h : a.jumpers = b.jumpers) : firsts a = firsts b := by unfold firsts; rw [h]

theorem sole_survivor_first (c : Comp) (hw : WF c) (hr : Ranked c) (w : Jumper)
    (hal : c.jumpers.filter (fun j => !j.eliminated) = [w]) (hb : w.bestIdx.isSome = true) : firsts c = [w] := by
  have hwm : w ∈ c.jumpers.filter (fun j => !j.eliminated) := by
    rw [hal]
    simp
  obtain ⟨hwj, hwe⟩ := List.mem_filter.1 hwm
  have hwe' : w.eliminated = false := by simpa using hwe
  have hstat : w.key.status = 0 := by
    unfold Jumper.key
    cases hbi : w.bestIdx with
    | none => rw [hbi] at hb; cases hb
    | some i => simp [hwe']
  -- everybody else is out, which is a worse status in the key
  have hothers : ∀ k ∈ c.jumpers, k ≠ w → Key.lt w.key k.key = true := by
    intro k hk hne
    have hke : k.eliminated = true := by
      cases he : k.eliminated with
      | true => rfl
      | false =>
        have : k ∈ c.jumpers.filter (fun j => !j.eliminated) := List.mem_filter.2 ⟨hk, by simp [he]⟩
        rw [hal] at this
        exact absurd (by simpa using this) hne
    have hks : 2 ≤ k.key.status := by
      unfold Jumper.key
      cases k.bestIdx <;> simp [hke]
    unfold Key.lt
    simp only [Bool.or_eq_true, decide_eq_true_eq]
    left
    omega
  have hw1 : w.place = 1 := by
    rw [place_one_iff c hr w hwj]
    intro k hk
    by_cases e : k = w
    · rw [e]
      exact keyLt_strictTotal.irrefl _
    · cases hlt : Key.lt k.key w.key with
      | false => rfl
      | true =>
        have := keyLt_strictTotal.trans _ _ _ (hothers k hk e) hlt
        rw [keyLt_strictTotal.irrefl] at this
        cases this
  refine eq_singleton_of_nodup (firsts c) w ((nodup_of_map_bib _ hw.1).filter _)
    (List.mem_filter.2 ⟨hwj, by simp [hw1]⟩) (fun k hk => ?_)
  obtain ⟨hkj, hkp⟩ := List.mem_filter.1 hk
  by_cases e : k = w
  · exact e
  · have := (place_one_iff c hr k hkj).1 (by simpa using hkp) w hwj
    rw [hothers k hkj e] at this
    cases this

theorem Decided_init : Decided {} :=
  ⟨(fun h => by cases h), (fun h => by cases h), (fun h => by cases h)⟩

theorem best_of_cleared_last (hs : List Int) (w : Jumper) (hb : BestInv hs w)
    (hc : (w.card.getLast?.getD []).contains Trial.o = true) : w.bestIdx.isSome = true := by
  cases hbi : w.bestIdx with
  | some _ => rfl
  | none =>
    exfalso
    have hno := hb.noneCase hbi (w.card.length - 1)
    unfold clearedAt at hno
    have hne : w.card ≠ [] := by
      intro e; rw [e] at hc; simp at hc
    rw [← getLast_getD, hc] at hno
    cases hno

theorem Decided.of_map {c c' : Comp} {f : Jumper → Jumper} (h : Decided c) (hj : c'.jumpers = c.jumpers.map f)
    (hp : ∀ k, (f k).place = k.place) (he : ∀ k, (f k).eliminated = k.eliminated)
    (hb : ∀ k, (f k).bestIdx = k.bestIdx)
    (hph : c'.phase = .finished ∨ c'.phase = .won ∨ c'.phase = .drawn → c'.phase = c.phase) : Decided c' := by
  have hfl : (firsts c').length = (firsts c).length := by
    unfold firsts
    rw [hj, List.filter_map, List.length_map]
    exact congrArg _ (List.filter_congr (fun k _ => by simp [hp k]))
  have hal : c'.jumpers.filter (fun j => !j.eliminated) = (c.jumpers.filter (fun j => !j.eliminated)).map f := by
    rw [hj, List.filter_map]
    exact congrArg _ (List.filter_congr (fun k _ => by simp [he k]))
  refine ⟨fun hq => ?_, fun hq => ?_, fun hq => ?_⟩
  · exact hfl.trans (h.finished ((hph (Or.inl hq)).symm.trans hq))
  · obtain ⟨w, hw, hwb, hu⟩ := h.won ((hph (Or.inr (Or.inl hq))).symm.trans hq)
    exact ⟨f w, by rw [hal, hw]; rfl, (congrArg _ (hb w)).trans hwb, hfl.trans hu⟩
  · exact hfl ▸ h.drawn ((hph (Or.inr (Or.inr hq))).symm.trans hq)

/-- The decision `_rank` takes is the right one.  `cr` is the state with the new mark entered and the places assigned;
    while it is `won`, somebody who is still in (if anybody is) has a clearance (`hwon`, from the state before). -/
theorem Tail.decided {cr c' : Comp} (ht : Tail cr c') (hw : WF cr) (hr : Ranked cr) (hs : SortedRanked cr)
    (hb : AllBest c') (hne : cr.jumpers ≠ [])
    (hph : cr.phase = .started ∨ cr.phase = .jumpoff ∨ cr.phase = .won)
    (hwon : cr.phase = .won → ∀ w, cr.alive = [w] → w.bestIdx.isSome = true)
    (hle : cr.phase = .won → cr.alive.length ≤ 1) : Decided c' := by
  cases ht with
  | open_ h0 =>
    refine ⟨fun hq => ?_, fun hq => ?_, fun hq => ?_⟩
    · rcases hph with e | e | e
      all_goals rw [e] at hq; cases hq
    · -- somebody is still in: otherwise the head of the ranked list would be nobody's bib
      match hal : cr.alive, hle hq with
      -- (two or more still in: excluded by `hle hq`)
      | [], _ =>
        exfalso
        cases hrk : cr.ranked with
        | nil =>
          have := hw.2.length_eq
          rw [hrk, List.length_map] at this
          exact hne (List.eq_nil_of_length_eq_zero this.symm)
        | cons r0 rest =>
          have := h0 hal r0 (by rw [hrk]; rfl)
          have hf := wf_found cr hw r0 (by rw [hrk]; simp)
          rw [this] at hf; cases hf
      | [w], _ =>
        have hbw := hwon hq w hal
        exact ⟨w, hal, hbw, by unfold UniqueFirst; rw [sole_survivor_first cr hw hr w hal hbw]; rfl⟩
    · rcases hph with e | e | e
      all_goals rw [e] at hq; cases hq
  | close hc =>
    cases hc with
    | oneLeft w ha hl ho =>
      have hbw := best_of_cleared_last _ w (hb w (List.mem_filter.1 (ha ▸ List.mem_singleton_self w : w ∈ cr.alive)).1) ho
      have hf1 : (firsts cr).length = 1 := by rw [sole_survivor_first cr hw hr w ha hbw]; rfl
      exact ⟨fun _ => hf1, fun _ => ⟨w, ha, hbw, hf1⟩, fun hq => by simp only at hq; split at hq <;> cases hq⟩
    | leader ha hrk h2 hf hn =>
      refine ⟨fun _ => ?_, fun hq => (by cases hq), fun hq => (by cases hq)⟩
      obtain ⟨j0, _, hm0, hp0⟩ := head_is_first cr hw hr hs _ _ hrk
      have hpos : 0 < (firsts cr).length := List.length_pos_of_mem (List.mem_filter.2 ⟨hm0, by simp [hp0]⟩)
      have hnot : ¬ 2 ≤ (firsts cr).length := fun hh => by
        rw [(secondIsFirst_iff cr hw hr hs _ _ hrk).2 hh] at h2; cases h2
      show (firsts cr).length = 1
      omega
    | drawn ha hrk h2 hn =>
      exact ⟨fun hq => (by cases hq), fun hq => (by cases hq), fun _ => (secondIsFirst_iff cr hw hr hs _ _ hrk).1 h2⟩
  | jumpoff =>
    refine ⟨fun hq => ?_, fun hq => ?_, fun hq => ?_⟩
    all_goals rw [(rankj_frame _).2.2.1] at hq; cases hq

theorem Decided.accepts {c c' : Comp} {op : Op} (hw : WF c) (hbest : AllBest c)
    (hdr : c.phase = .drawn → ∀ j ∈ c.jumpers, j.eliminated = true) (h : Decided c) (ha : Accepts c op c') :
    Decided c' := by
  have hbest' := hbest.accepts hw ha
  cases ha with
  | add b hp hf =>
    have hs : (addResult c b).phase = .scheduled := hp
    refine ⟨fun hq => ?_, fun hq => ?_, fun hq => ?_⟩
    all_goals rw [hs] at hq; cases hq
  | bar x hb =>
    -- a bar rewrites only `dismissed`, and the only phase change is `scheduled` to `started`
    refine h.of_map (hj := barResult_jumpers c x) (hp := fun _ => rfl) (he := fun _ => rfl) (hb := fun _ => rfl)
      (hph := fun hq => ?_)
    rw [barResult_phase] at hq ⊢
    split at hq
    · rcases hq with e | e | e <;> cases e
    · next hs => rw [if_neg hs]
  | trial b t j hf hta hh he hd hl =>
    obtain ⟨hmj, hbj⟩ := find_some_mem c b j hf
    obtain ⟨F, hjs, hwL, hF, hal⟩ := alive_rankj_logTrial c hw b t j hf he
      (fun k => k.actCore c.heights.length (c.heights.getLast?.getD 0) t) (fun k => actCore_bib k _ _ t)
    have hpR : (rankj (logTrial c b t (j.actCore c.heights.length (c.heights.getLast?.getD 0) t))).phase = c.phase :=
      (rankj_frame (logTrial c b t (j.actCore c.heights.length (c.heights.getLast?.getD 0) t))).2.2.1
    have hne : (rankj (logTrial c b t (j.actCore c.heights.length (c.heights.getLast?.getD 0) t))).jumpers ≠ [] := by
      rw [hjs]; intro e; rw [List.map_eq_nil_iff] at e; rw [e] at hmj; cases hmj
    refine (rankTail_cases _).decided (rankj_WF _ hwL) (rankj_ranked _ hwL) (rankj_sorted _ hwL) hbest' hne
      (hph := ?_) (hwon := fun hq w hw' => ?_) (hle := fun hq => ?_)
    -- hph: the phase in which a trial is accepted; not `drawn`, where everybody is out (`hdr`)
    · rw [hpR]
      rcases trialAllowed_phase hta with e | e | e | e
      · exact Or.inl e
      · exact Or.inr (Or.inl e)
      · exact Or.inr (Or.inr e)
      · rw [hdr e j hmj] at he; cases he
    -- hwon: whoever is alone afterwards was alone before, with a clearance, and a trial never removes a best
    · obtain ⟨w0, hw0, hb0, _⟩ := h.won (hpR ▸ hq)
      rw [hal, Comp.alive, hw0, List.map_singleton, List.filter_cons, List.filter_nil] at hw'
      split at hw'
      · obtain rfl := List.singleton_inj.1 hw'
        obtain ⟨p, hp⟩ := hF w0
        rw [hp]
        show (if w0.bib == b then _ else w0).bestIdx.isSome = true
        split
        · exact actCore_bestIdx_isSome w0 _ _ t hb0
        · exact hb0
      · cases hw'
    -- hle: nobody comes back in
    · obtain ⟨w0, hw0, _⟩ := h.won (hpR ▸ hq)
      rw [hal, Comp.alive, hw0, List.map_singleton, List.filter_cons, List.filter_nil]
      split <;> simp

end AthlibVerif.HJ
