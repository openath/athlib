import AthlibVerif.Lemmas.Times
/-! `format_seconds_as_time` when the text of the residue `seconds - int(seconds)` is in fixed notation (`FixedResidue`):
h:mm:ss fields and `p` decimals that together are the ceiling of the input cut to five decimals (`formatSeconds_spec`). -/
namespace AthlibVerif.Times
open AthlibVerif.Digits

/-- the residue texts a fixed-notation rendering of a float in `[0, 1]` can be: `'0'` (an `int` argument),
`'0.ddd…'`, or `'1.000…'` (a residue that rounds to one) -/
inductive FixedResidue : List Char → Prop
  | zero : FixedResidue ['0']
  | frac (ds : List Char) : allDig ds = true → FixedResidue ('0' :: '.' :: ds)
  | one (k : Nat) : FixedResidue ('1' :: '.' :: zeros k)

/-- a decimal text cut after `m` decimals, as `(numerator, number of decimals)`: value = `num / 10^dec` -/
def truncDec (t : List Char) (m : Nat) : Nat × Nat :=
  match splitDot t with
  | (i, none) => (val i, 0)
  | (i, some f) => (val i * 10 ^ (f.take m).length + val (f.take m), (f.take m).length)

def fracPart (fd : List Char) (p : Nat) : List Char := if p = 0 then [] else '.' :: fd

theorem join_single (c : Char) (fd : List Char) (p : Nat) : join [c] fd p = c :: fracPart fd p := by
  unfold join fracPart; split <;> simp_all

theorem take_zeros (k m : Nat) : (zeros k).take m = zeros (min m k) := by
  simp [zeros, List.take_replicate]

/-- the last conjunct (at most one whole second) is what lets `formatSeconds_spec` read a leading digit other than `'0'` as
exactly one second to carry, with all decimals zero -/
theorem roundUp_residue (t : List Char) (p : Nat) (ht : FixedResidue t) :
    ∃ c fd, roundUpStr t p 5 = c :: fracPart fd p ∧ isDig c = true ∧ allDig fd = true ∧ fd.length = p ∧
      IsCeil (dval c * 10 ^ p + val fd) ((truncDec t 5).1 * 10 ^ p) (10 ^ (truncDec t 5).2) ∧
      dval c * 10 ^ p + val fd ≤ 10 ^ p := by
  -- all three shapes go through `roundUpCore_spec` with a one-character integer part
  have key : ∀ (i g : List Char), i.length = 1 → allDig i = true → allDig g = true →
      (val i = 0 ∨ (val i = 1 ∧ val g = 0)) →
      ∃ c fd, roundUpCore i g p = c :: fracPart fd p ∧ isDig c = true ∧ allDig fd = true ∧ fd.length = p ∧
        IsCeil (dval c * 10 ^ p + val fd) ((val i * 10 ^ g.length + val g) * 10 ^ p) (10 ^ g.length) ∧
        dval c * 10 ^ p + val fd ≤ 10 ^ p := by
    intro i g hl hi hg hv
    obtain ⟨i', f', he, cs⟩ := roundUpCore_spec i g p hi hg
    have h1 : i'.length = 1 := cs.one hl (by rcases hv with h | h; exact Or.inl h; exact Or.inr h.2)
    obtain ⟨c, rfl⟩ := List.length_eq_one_iff.1 h1
    refine ⟨c, f', by rw [he, join_single], ?_, cs.df, cs.len, ?_, ?_⟩
    · have := cs.di; rw [allDig_cons, Bool.and_eq_true] at this; exact this.1
    · have := cs.ceil; rwa [val_singleton] at this
    · have hc := cs.ceil.2
      rw [val_singleton] at hc
      have hg' := val_lt g
      have hC : 0 < 10 ^ g.length := Nat.pow_pos (by omega)
      have hT : val i * 10 ^ g.length + val g ≤ 10 ^ g.length := by
        rcases hv with h | ⟨h, h0⟩
        · rw [h]; omega
        · rw [h, h0]; omega
      have hT' : (val i * 10 ^ g.length + val g) * 10 ^ p ≤ 10 ^ g.length * 10 ^ p := Nat.mul_le_mul_right _ hT
      have : (dval c * 10 ^ p + val f') * 10 ^ g.length < (10 ^ p + 1) * 10 ^ g.length := by
        rw [Nat.add_mul (10 ^ p) 1, Nat.mul_comm (10 ^ p) (10 ^ g.length)]; omega
      have := Nat.lt_of_mul_lt_mul_right this
      omega
  cases ht with
  | zero =>
    have e : splitDot ['0'] = (['0'], none) := by decide
    have ht : truncDec ['0'] 5 = (0, 0) := by simp only [truncDec, e]; decide
    obtain ⟨c, fd, h1, h2, h3, h4, h5, h6⟩ := key ['0'] (zeros p) rfl (by decide) (allDig_zeros p) (Or.inl (by decide))
    refine ⟨c, fd, by simp only [roundUpStr, e]; exact h1, h2, h3, h4, ?_, h6⟩
    have hA : 0 < 10 ^ p := Nat.pow_pos (by omega)
    rw [show val ['0'] = 0 by decide, val_zeros, zeros_length] at h5
    rw [ht, h5.exact hA]
    simp [IsCeil]
  | frac ds hds =>
    have e : splitDot ('0' :: '.' :: ds) = (['0'], some ds) := splitDot_dot ['0'] ds (by decide)
    have ht : truncDec ('0' :: '.' :: ds) 5 = (val ['0'] * 10 ^ (ds.take 5).length + val (ds.take 5), (ds.take 5).length) := by
      simp only [truncDec, e]
    obtain ⟨c, fd, h1, h2, h3, h4, h5, h6⟩ := key ['0'] (ds.take 5) rfl (by decide) (allDig_take _ _ hds) (Or.inl (by decide))
    exact ⟨c, fd, by simp only [roundUpStr, e]; exact h1, h2, h3, h4, by rw [ht]; exact h5, h6⟩
  | one k =>
    have e : splitDot ('1' :: '.' :: zeros k) = (['1'], some (zeros k)) := splitDot_dot ['1'] (zeros k) (by decide)
    have ht : truncDec ('1' :: '.' :: zeros k) 5 =
        (val ['1'] * 10 ^ ((zeros k).take 5).length + val ((zeros k).take 5), ((zeros k).take 5).length) := by
      simp only [truncDec, e]
    have hz : val ((zeros k).take 5) = 0 := by rw [take_zeros, val_zeros]
    obtain ⟨c, fd, h1, h2, h3, h4, h5, h6⟩ := key ['1'] ((zeros k).take 5) rfl (by decide)
      (allDig_take _ _ (allDig_zeros k)) (Or.inr ⟨by decide, hz⟩)
    exact ⟨c, fd, by simp only [roundUpStr, e]; exact h1, h2, h3, h4, by rw [ht]; exact h5, h6⟩

theorem bump_spec (w : Nat) : ∀ h m s, bump (w / 60 / 60) (w / 60 % 60) (w % 60) = (h, m, s) →
    m < 60 ∧ s < 60 ∧ h * 3600 + m * 60 + s = w + 1 := by
  intro h m s hb
  unfold bump at hb
  split at hb
  · split at hb <;> (simp only [Prod.mk.injEq] at hb; omega)
  · simp only [Prod.mk.injEq] at hb; omega

/-- adding `w` whole units to both sides of a ceiling -/
theorem isCeil_shift (N T w A C : Nat) (h : IsCeil N (T * A) C) : IsCeil (w * A + N) ((w * C + T) * A) C := by
  obtain ⟨a1, a2⟩ := h
  constructor <;> grind

theorem formatSeconds_spec (whole p : Nat) (t : List Char) (hp : p ≤ 3) (ht : FixedResidue t) :
    ∃ h m s fd, formatSeconds whole t p = .ok (fmtHMS h m s ++ fracPart fd p) ∧ m < 60 ∧ s < 60 ∧
      allDig fd = true ∧ fd.length = p ∧
      IsCeil ((h * 3600 + m * 60 + s) * 10 ^ p + val fd)
        ((whole * 10 ^ (truncDec t 5).2 + (truncDec t 5).1) * 10 ^ p) (10 ^ (truncDec t 5).2) := by
  obtain ⟨c, fd, hr, hc, hfd, hlen, hceil, hle⟩ := roundUp_residue t p ht
  have hA : 0 < 10 ^ p := Nat.pow_pos (by omega)
  have hfdlt : val fd < 10 ^ p := by have := val_lt fd; rwa [hlen] at this
  unfold formatSeconds
  rw [if_pos hp, hr]
  generalize (truncDec t 5).1 = T at *
  generalize (truncDec t 5).2 = n at *
  by_cases h0 : c = '0'
  · subst h0
    have hd : dval '0' = 0 := by decide
    rw [hd] at hceil
    refine ⟨whole / 60 / 60, whole / 60 % 60, whole % 60, fd, by simp, by omega, by omega, hfd, hlen, ?_⟩
    have : whole / 60 / 60 * 3600 + whole / 60 % 60 * 60 + whole % 60 = whole := by omega
    rw [this]
    simp only [Nat.zero_mul, Nat.zero_add] at hceil
    exact isCeil_shift _ _ _ _ _ hceil
  · have hpos := dval_pos c hc h0
    have hge : 1 * 10 ^ p ≤ dval c * 10 ^ p := Nat.mul_le_mul_right _ hpos
    have hv : dval c * 10 ^ p + val fd = 10 ^ p := by omega
    rw [hv] at hceil
    have hfd0 : val fd = 0 := by omega
    obtain ⟨h, m, s, hb⟩ : ∃ h m s, bump (whole / 60 / 60) (whole / 60 % 60) (whole % 60) = (h, m, s) :=
      ⟨_, _, _, rfl⟩
    obtain ⟨hm, hs, hsum⟩ := bump_spec whole h m s hb
    refine ⟨h, m, s, fd, by simp [h0, hb], hm, hs, hfd, hlen, ?_⟩
    rw [hsum, hfd0, Nat.add_zero, Nat.add_mul, Nat.one_mul]
    exact isCeil_shift _ _ _ _ _ hceil

end AthlibVerif.Times
