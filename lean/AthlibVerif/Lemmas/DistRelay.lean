import AthlibVerif.Lemmas.DistToken
/-!
# `get_distance` returns on every string that has a token

The relay branch multiplies the number of legs by the distance of the leg, so the leg must have one.  For
`digits [. digits] [H|M|K]` (what the upper-cased leg of a relay can be besides the named medleys, `CodeFacts.leg`) the
leading-number patterns take exactly the number (`CodeFacts.leading`), the rest is the unit, and every such unit is one the
function knows: the answer is a distance, never `None` — so `int(legs) * get_distance(leg)` cannot raise.
-/
namespace AthlibVerif
namespace Codes
open GRE

theorem strEq_false_of_head (s : Str) (t : String) (c a : Char) (rest : Str) (hs : s = c :: rest)
    (ht : t.toList.head? = some a) (hne : c ≠ a) : strEq s t = false := by
  unfold strEq
  subst hs
  cases hl : t.toList with
  | nil => rw [hl] at ht; cases ht
  | cons b bs =>
    rw [hl] at ht
    simp only [List.head?_cons, Option.some.injEq] at ht
    subst ht
    simp [hne]

/-- `prelude`: the tests `get_distance` makes before it looks for a number (the names, the relay pattern); all fail on a
    text that starts with a digit and has no `x` / `X` -/
theorem numeric_prelude (F : CodeFacts) (g2 : Str) (d : Char) (rest : Str) (hg : g2 = d :: rest)
    (hd : isDigitU d = true) (hx : ∀ c ∈ g2, c ≠ 'x' ∧ c ≠ 'X') :
    strEq g2 "XC" = false ∧ strEq g2 "MAR" = false ∧ strEq g2 "HM" = false ∧
    strIn g2 ["MILE", "CHUNDER-MILE"] = false ∧ pyMatch "PAT_RELAYS" g2 = none := by
  have hne : ∀ a ∈ ['X', 'M', 'H', 'C', 'K'], d ≠ a := by
    intro a ha e
    subst e
    rw [F.letters _ ha] at hd
    cases hd
  refine ⟨strEq_false_of_head g2 "XC" d 'X' rest hg rfl (hne _ (by simp)),
    strEq_false_of_head g2 "MAR" d 'M' rest hg rfl (hne _ (by simp)),
    strEq_false_of_head g2 "HM" d 'H' rest hg rfl (hne _ (by simp)), ?_, F.not_relay g2 hx⟩
  have h1 := strEq_false_of_head g2 "MILE" d 'M' rest hg rfl (hne _ (by simp))
  have h2 := strEq_false_of_head g2 "CHUNDER-MILE" d 'C' rest hg rfl (hne _ (by simp))
  unfold strEq at h1 h2
  unfold strIn
  simp only [List.any_cons, List.any_nil, h1, h2, Bool.or_false]

/-- every unit suffix of an upper-cased numeric leg gives a distance: none and `H` (hurdles) ×1, `M` (miles) ×1609, `K` ×1000 -/
theorem unitDistance_leg (n den : Nat) (sfx : Str) (hs : sfx = [] ∨ sfx = ['H'] ∨ sfx = ['M'] ∨ sfx = ['K']) :
    ∃ leg, unitDistance n den sfx = some leg := by
  rcases hs with rfl | rfl | rfl | rfl
  all_goals exact ⟨_, rfl⟩

/-- what `numEnd_int` / `numEnd_float` ask of the text behind the number, for the unit letters of a leg -/
theorem sfx_facts (F : CodeFacts) (sfx : Str) (hs : sfx = [] ∨ sfx = ['H'] ∨ sfx = ['M'] ∨ sfx = ['K']) :
    ∀ c, sfx.head? = some c → isDigitU c = false ∧ c ≠ '.' := by
  rcases hs with rfl | rfl | rfl | rfl
  · simp
  all_goals
    intro c hc
    simp only [List.head?_cons, Option.some.injEq] at hc
    subst hc
    exact ⟨F.letters _ (by simp), by decide⟩

theorem getDistance_numeric_leg (F : CodeFacts) (q sfx : Str) (d : Char) (rest : Str) (hq : q = d :: rest)
    (hd : isDigitU d = true) (hs : sfx = [] ∨ sfx = ['H'] ∨ sfx = ['M'] ∨ sfx = ['K'])
    (hc : ∀ c ∈ q ++ sfx, isSpaceC c = false ∧ c ≠ 'x' ∧ c ≠ 'X')
    (he : numEnd (q ++ sfx) = some q.length) (hdec : ∃ r, decimalOf (dropEndWhileL (· == '.') q) = some r)
    (fuel : Nat) : ∃ leg, getDistance (fuel + 1) (q ++ sfx) = .ok (some leg) := by
  have ht := firstToken_self (q ++ sfx) (by simp [hq]) (fun c h => (hc c h).1)
  obtain ⟨h1, h2, h3, h4, hr⟩ := numeric_prelude F (q ++ sfx) d (rest ++ sfx) (by rw [hq]; rfl) hd (fun c h => (hc c h).2)
  obtain ⟨⟨n, den⟩, hdec⟩ := hdec
  obtain ⟨leg, hleg⟩ := unitDistance_leg n den sfx hs
  rw [← F.leading] at he
  rw [getDistance_number fuel (q ++ sfx) q.length n den ht h1 h2 h3 h4 hr he (by rw [List.take_left' rfl]; exact hdec),
    List.drop_left' rfl, hleg]
  exact ⟨leg, rfl⟩

theorem relay_leg_distance (F : CodeFacts) (tok : Str) (rc : Caps) (hm : pyMatch "PAT_RELAYS" tok = some rc) (fuel : Nat) :
    let g2 := upper ((group tok rc 2).getD [])
    strIn g2 ["RELAY", "DMR", "SDMR"] = true ∨ strEq g2 "SMR" = true ∨ strEq g2 "SSMR" = true ∨ strEq g2 "SWR" = true ∨
      ∃ leg, getDistance (fuel + 1) g2 = .ok (some leg) := by
  intro g2
  obtain ⟨t, hg, _, hup, hshape⟩ := F.leg tok rc hm
  have hg2 : g2 = upper t := by simp only [g2, hg, Option.getD_some]
  rw [hg2]
  rcases hshape with ⟨D1, D2, sfx, hne1, hD1, hD2, hsfx, hparts⟩ | hname
  · -- a number with an optional unit letter
    have hsfxhd := sfx_facts F sfx hsfx
    obtain ⟨d, ds, hd⟩ := List.exists_cons_of_ne_nil hne1
    have hd1 : isDigitU d = true := hD1 d (by rw [hd]; exact List.mem_cons_self)
    right; right; right; right
    rcases hparts with e | ⟨_, e⟩
    · rw [e] at hup ⊢
      exact getDistance_numeric_leg F D1 sfx d ds hd hd1 hsfx hup
        (numEnd_int D1 sfx hne1 hD1 hsfxhd) (qty_digits F D1 hne1 hD1) fuel
    · have e' : upper t = (D1 ++ '.' :: D2) ++ sfx := by rw [e, List.append_assoc, List.cons_append]
      rw [e'] at hup ⊢
      refine getDistance_numeric_leg F (D1 ++ '.' :: D2) sfx d (ds ++ '.' :: D2) (by rw [hd]; rfl) hd1 hsfx hup
        ?_ (qty_float F D1 D2 hne1 hD1 hD2) fuel
      have hlen : (D1 ++ '.' :: D2).length = D1.length + 1 + D2.length := by
        simp only [List.length_append, List.length_cons]
        omega
      rw [hlen, List.append_assoc, List.cons_append]
      exact numEnd_float F D1 D2 sfx hne1 hD1 hD2 (fun c hc => (hsfxhd c hc).1)
  · -- one of the six names
    simp only [legNames, List.map_cons, List.map_nil, List.mem_cons, List.mem_nil_iff, or_false] at hname
    rcases hname with h | h | h | h | h | h <;> rw [h]
    · left; decide
    · left; decide
    · right; left; decide
    · left; decide
    · right; right; left; decide
    · right; right; right; left; decide

theorem getDistance_relay_ok (F : CodeFacts) (d tok : Str) (rc : Caps) (htok : firstToken d = .ok tok)
    (hm : pyMatch "PAT_RELAYS" tok = some rc) (fuel : Nat) : ∃ r, getDistance (fuel + 2) d = .ok r :=
  getDistance_ok (fuel + 1) d tok htok
    (fun rc' hm' => relayDistance_ok _ _ _ (F.legs tok rc' hm') (relay_leg_distance F tok rc' hm' fuel))
    (fun hn => by rw [hn] at hm; cases hm)

/-- `fuel + 2`: two levels of the recursion are needed, a relay and its leg -/
theorem getDistance_total (F : CodeFacts) (s : Str) (hns : ∃ c ∈ s, isSpaceC c = false) (fuel : Nat) :
    ∃ r, getDistance (fuel + 2) s = .ok r := by
  obtain ⟨tok, htok⟩ := firstToken_ok s hns
  cases hm : pyMatch "PAT_RELAYS" tok with
  | none => exact getDistance_nonrelay_ok F (fuel + 1) s tok htok hm
  | some rc => exact getDistance_relay_ok F s tok rc htok hm fuel

end Codes
end AthlibVerif
