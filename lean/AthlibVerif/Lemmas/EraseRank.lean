import AthlibVerif.Lemmas.Erase
/-!
# Ranking on both sides of the pass-erasure simulation

`_rank` keeps the pairing of the records by `JSim` (`Paired`, which is `PairedBy JSim`) and makes the places agree
(`rank_paired`): an instance of `rank_pairedBy` of Lemmas/RankOrder, `JSim` being a relation `_rank` cannot see through
once the left record is known to end in the mark that put the athlete out (`ElimMark`) and not to be longer than the
list of heights (`JSimAt`).
-/
namespace AthlibVerif.HJ
open AthlibVerif.Ranking

/-- `PairedBy JSim` of Lemmas/RankOrder, field for field (`Paired.by`, `PairedBy.paired` convert): `PairedBy` is the
    general notion, `Paired` the one the results on the simulation are stated with (`Sim`, `rank_paired`). -/
structure Paired (ps : List (Jumper × Jumper)) (c c' : Comp) : Prop where
  left : c.jumpers = ps.map Prod.fst
  right : c'.jumpers = ps.map Prod.snd
  sim : ∀ p ∈ ps, JSim p.1 p.2
  phase : c'.phase = c.phase
  heights : c'.heights = c.heights
  ranked : c'.ranked.Perm c.ranked

theorem Paired.by {ps : List (Jumper × Jumper)} {c c' : Comp} (h : Paired ps c c') : PairedBy JSim ps c c' :=
  ⟨h.left, h.right, h.sim, h.phase, h.heights, h.ranked⟩

theorem PairedBy.paired {ps : List (Jumper × Jumper)} {c c' : Comp} (h : PairedBy JSim ps c c') : Paired ps c c' :=
  ⟨h.left, h.right, h.sim, h.phase, h.heights, h.ranked⟩

theorem JSim.setPlace {j j' : Jumper} (h : JSim j j') (p q : Nat) : JSim { j with place := p } { j' with place := q } :=
  ⟨h.bib, h.best, h.bestIdx, h.elim, h.lim, h.consec, h.dis, h.card⟩

theorem JSim.reinstate {j j' : Jumper} (h : JSim j j') : JSim (reinstate j) (reinstate j') :=
  ⟨h.bib, h.best, h.bestIdx, rfl, rfl, rfl, h.dis, h.card⟩

theorem Paired.update {ps : List (Jumper × Jumper)} {c c' : Comp} (h : Paired ps c c') (k k' : Jumper) (hk : JSim k k') :
    Paired (ps.map (fun p => ((if p.1.bib == k.bib then k else p.1), (if p.2.bib == k'.bib then k' else p.2)))) (c.update k) (c'.update k') :=
  (h.by.update JSim.bib k k' hk).paired

def ElimMark (j : Jumper) : Prop :=
  j.eliminated = true → ∃ init cell t, j.card = init ++ [cell ++ [t]] ∧ (t = Trial.x ∨ t = Trial.r)

theorem JSim.elim_facts {j j' : Jumper} (h : JSim j j') (he : ElimMark j) (hel : j.eliminated = true) :
    j'.card.length = j.card.length ∧ j'.hasRetired = j.hasRetired := by
  obtain ⟨init, cell, t, hc, ht⟩ := he hel
  have htp : t ≠ Trial.p := by rcases ht with rfl | rfl <;> simp
  have hL : j.card.length = init.length + 1 := by rw [hc]; simp
  have hcell : j'.card.getD init.length [] = noP cell ++ [t] := by
    rw [h.card.cells, hc, List.getD_eq_getElem?_getD]
    simp [noP_snoc _ _ htp]
  have hlt : init.length < j'.card.length := by
    by_cases hlt : init.length < j'.card.length
    · exact hlt
    · rw [List.getD_eq_getElem?_getD, List.getElem?_eq_none (by omega)] at hcell
      simp at hcell
  have hlen : j'.card.length = j.card.length := by have := h.card.len; omega
  refine ⟨hlen, ?_⟩
  unfold Jumper.hasRetired
  have h1 : j.card.getLast? = some (cell ++ [t]) := by rw [hc]; simp
  have h2 : j'.card.getLast? = some (noP cell ++ [t]) := by
    rw [List.getLast?_eq_getElem?, hlen, hL]
    simp only [Nat.add_sub_cancel]
    rw [List.getD_eq_getElem?_getD, List.getElem?_eq_getElem hlt] at hcell
    rw [List.getElem?_eq_getElem hlt]
    simpa using hcell
  rw [h1, h2]
  simp

/-- the left side is the test of `rankOneLeft` -/
theorem cleared_test (a : List (List Trial)) (n : Nat) (hlen : a.length ≤ n) :
    (a.length == n && (a.getLast?.getD []).contains Trial.o) = (a.getD (n - 1) []).contains Trial.o := by
  by_cases h : a.length = n
  · rw [getLast_getD, h]
    simp
  · rw [List.getD_eq_getElem?_getD, List.getElem?_eq_none (by omega)]
    simp [h]

theorem JSim.cleared_now {w w' : Jumper} (h : JSim w w') (n : Nat) (hlen : w.card.length ≤ n) :
    (w'.card.length == n && (w'.card.getLast?.getD []).contains Trial.o) =
    (w.card.length == n && (w.card.getLast?.getD []).contains Trial.o) := by
  have hmemo : ∀ cell : List Trial, (noP cell).contains Trial.o = cell.contains Trial.o := fun cell => by
    rw [Bool.eq_iff_iff]
    simp [noP, List.mem_filter]
  rw [cleared_test _ n hlen, cleared_test _ n (Nat.le_trans h.card.len hlen), h.card.cells, hmemo]

def JSimAt (n : Nat) (j j' : Jumper) : Prop := JSim j j' ∧ ElimMark j ∧ j.card.length ≤ n

theorem jsim_compat (n : Nat) : RankCompat (JSimAt n) n where
  bib := fun h => h.1.bib
  key := fun h => h.1.key
  elim := fun h => h.1.elim
  place := fun h p q => ⟨h.1.setPlace p q, h.2.1, h.2.2⟩
  reinst := fun h => ⟨h.1.reinstate, fun he => Bool.noConfusion he, h.2.2⟩
  out := fun h he => h.1.elim_facts h.2.1 he
  cleared := fun h => h.1.cleared_now n h.2.2

theorem rank_paired (ps : List (Jumper × Jumper)) (c c' : Comp) (h : Paired ps c c') (hw : WF c) (hw' : WF c')
    (hlen : ∀ j ∈ c.jumpers, j.card.length ≤ c.heights.length) (hem : ∀ j ∈ c.jumpers, ElimMark j) :
    ∃ ps', Paired ps' (rank c) (rank c') ∧ PlacesEq ps' := by
  have hP : PairedBy (JSimAt c.heights.length) ps c c' :=
    ⟨h.left, h.right, fun p hp => ⟨h.sim p hp, hem _ (h.by.mem_left p hp), hlen _ (h.by.mem_left p hp)⟩,
      h.phase, h.heights, h.ranked⟩
  obtain ⟨ps', hP', hpl⟩ := rank_pairedBy (jsim_compat _) hP rfl hw
  exact ⟨ps', ⟨hP'.left, hP'.right, fun p hp => (hP'.sim p hp).1, hP'.phase, hP'.heights, hP'.ranked⟩, hpl⟩

end AthlibVerif.HJ
