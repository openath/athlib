import AthlibVerif.Lemmas.Best
/-!
# The shape of every card, in every reachable state

Observable content of the attempt rules: every cell of every card holds at most three marks, failures first and
then at most one closing mark (clearance, pass or retirement) — `CellOK`.  Behind it: the flags the guard of
`_set_jump_array` reads (`eliminated`, `dismissed`, `round_lim`) are tied to the card (`FlagInv`), through every
accepted call (`AllFlags.accepts`); ranking only ever re-instates (`FlagInv.rerank`).
-/
namespace AthlibVerif.HJ

def allX (cell : List Trial) : Bool := cell.all (· == .x)

def CellOK (cell : List Trial) : Prop := allX cell.dropLast = true ∧ cell.length ≤ 3

theorem cellOK_nil : CellOK [] := ⟨rfl, by simp⟩

theorem cellOK_snoc (cell : List Trial) (t : Trial) (h : allX cell = true) (hl : cell.length < 3) : CellOK (cell ++ [t]) := by
  refine ⟨by simpa using h, by simp; omega⟩

theorem allX_snoc (cell : List Trial) (h : allX cell = true) : allX (cell ++ [.x]) = true := by
  unfold allX at *; simp [List.all_append, h]

structure FlagInv (hs : List Int) (j : Jumper) : Prop where
  len : j.card.length ≤ hs.length
  cells : ∀ cell ∈ j.card, CellOK cell
  -- bounds a cell by three (`FlagInv_act`); `LimInv.either` (Lemmas/RoundLim) is this again, beside which of the two, and when
  lim : j.roundLim = 1 ∨ j.roundLim = 3
  -- `dismissed` is "done at the current height": whoever is out is also done
  outDone : j.eliminated = true → j.dismissed = true
  -- whoever may still jump has only failures at the current height (`padCard`: the cell the guard of `Jumper.act`
  -- reads, which the card need not hold yet)
  openCell : j.eliminated = false → j.dismissed = false → allX ((padCard j.card hs.length).getLast?.getD []) = true

def AllFlags (c : Comp) : Prop := ∀ j ∈ c.jumpers, FlagInv c.heights j

theorem padCard_mem (card : List (List Trial)) (n : Nat) (cell : List Trial) (h : cell ∈ padCard card n) :
    cell ∈ card ∨ cell = [] := by
  unfold padCard at h
  rcases List.mem_append.1 h with h | h
  · exact Or.inl h
  · exact Or.inr (List.eq_of_mem_replicate h)

theorem FlagInv_act (hs : List Int) (j : Jumper) (t : Trial) (h : FlagInv hs j) (hpos : hs ≠ [])
    (he : j.eliminated = false) (hd : j.dismissed = false)
    (hlt : ((padCard j.card hs.length).getLast?.getD []).length < j.roundLim) :
    FlagInv hs (j.actCore hs.length (hs.getLast?.getD 0) t) := by
  have hp : 0 < hs.length := List.length_pos_iff.2 hpos
  obtain ⟨hfull, hlastnew⟩ := card_after_trial j.card hp h.len t
  have hopen := h.openCell he hd
  have hl3 : ((padCard j.card hs.length).getLast?.getD []).length < 3 := by
    rcases h.lim with e | e <;> omega
  have hcells : ∀ cell ∈ appendLast (padCard j.card hs.length) t, CellOK cell := by
    obtain ⟨init, last, hsp, hc⟩ := appendLast_split _ t (padCard_ne_nil j.card hp)
    rw [hsp, List.getLast?_concat, Option.getD_some] at hopen hl3
    intro cell hm
    rcases List.mem_append.1 (hc ▸ hm) with hm | hm
    · rcases padCard_mem j.card hs.length cell (hsp ▸ List.mem_append_left _ hm) with hm | hm
      · exact h.cells cell hm
      · rw [hm]
        exact cellOK_nil
    · rw [List.mem_singleton.1 hm]
      exact cellOK_snoc _ t hopen hl3
  refine ⟨by rw [actCore_card]; exact Nat.le_of_eq hfull, by rw [actCore_card]; exact hcells,
    by rw [actCore_roundLim]; exact h.lim, ?_, ?_⟩
  · -- whatever puts an athlete out also ends the height for them
    rw [actCore_eliminated _ _ _ _ he, actCore_dismissed]
    cases t <;> simp
  · -- still in and not done: it was a failure, and the cell was open
    intro _ hd'
    rw [actCore_dismissed] at hd'
    obtain rfl : t = .x := by cases t <;> simp_all
    rw [actCore_card, hlastnew]
    exact allX_snoc _ hopen


theorem padCard_last_of_short (card : List (List Trial)) (n : Nat) (h : card.length < n) :
    (padCard card n).getLast?.getD [] = [] := by
  unfold padCard
  have : n - card.length = (n - card.length - 1) + 1 := by omega
  rw [this, List.replicate_succ', ← List.append_assoc]
  simp

theorem FlagInv.rerank {hs : List Int} {k k' : Jumper} (hr : Reranked k k') (h : FlagInv hs k) : FlagInv hs k' := by
  cases hr with
  | place => exact ⟨h.len, h.cells, h.lim, h.outDone, h.openCell⟩
  | back =>
    -- `reinstate` leaves `dismissed` alone, and somebody who was out has it set: no cell is claimed to be open
    refine ⟨h.len, h.cells, Or.inl rfl, fun he => (by cases he), fun _ hd => ?_⟩
    cases hel : k.eliminated with
    | false => exact h.openCell hel hd
    | true => exact absurd ((h.outDone hel).symm.trans hd) (by simp)

theorem FlagInv.new (hs : List Int) (b p : Nat) : FlagInv hs { bib := b, place := p } := by
  refine ⟨by simp, by simp, Or.inr rfl, by simp, fun _ _ => ?_⟩
  simp only [padCard, List.length_nil, Nat.sub_zero, List.nil_append]
  cases hl : hs.length with
  | zero => rfl
  | succ n =>
    rw [List.replicate_succ']
    simp
    rfl

theorem FlagInv.bar {hs : List Int} {k : Jumper} (x : Int) (h : FlagInv hs k) :
    FlagInv (hs ++ [x]) { k with dismissed := k.eliminated && k.dismissed } := by
  have hshort : k.card.length < (hs ++ [x]).length := by
    have := h.len
    simp
    omega
  refine ⟨Nat.le_of_lt hshort, h.cells, h.lim, fun he => ?_, fun _ _ => ?_⟩
  · simp only [Bool.and_eq_true]
    exact ⟨he, h.outDone he⟩
  · rw [padCard_last_of_short _ _ hshort]
    rfl

theorem AllFlags.accepts {c c' : Comp} {op : Op} (hw : WF c) (h : AllFlags c) (ha : Accepts c op c') : AllFlags c' :=
  ha.forall_records hw (fun b p _ => FlagInv.new _ b p)
    (fun x _ _ hk => hk.bar x)
    (fun t k _ hh he hd hl hk => FlagInv_act _ k t hk hh he hd hl)
    (fun _ _ => FlagInv.rerank) h

end AthlibVerif.HJ
