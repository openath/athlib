/-! Facts about `List` alone (no model, core Lean only) that proofs about more than one part of athlib use. -/
namespace AthlibVerif

theorem pairwise_mem_cases {α} {R : α → α → Prop} {l : List α} (hl : l.Pairwise R) {a b : α}
    (ha : a ∈ l) (hb : b ∈ l) : a = b ∨ R a b ∨ R b a :=
  List.Pairwise.forall_of_forall_of_flip (R := fun x y => x = y ∨ R x y ∨ R y x) (fun _ _ => .inl rfl)
    (hl.imp fun h => .inr (.inl h)) (hl.imp fun h => .inr (.inr h)) ha hb

/-- the longest prefix on which `p` holds, and the rest, which does not begin with such an element -/
theorem exists_span {α} (p : α → Bool) (l : List α) :
    ∃ u r, l = u ++ r ∧ (∀ y ∈ u, p y = true) ∧ ∀ y, r.head? = some y → p y = false :=
  ⟨l.takeWhile p, l.dropWhile p, List.takeWhile_append_dropWhile.symm, List.all_eq_true.1 List.all_takeWhile,
    fun y hy => by have := List.head?_dropWhile_not p l; rwa [hy] at this⟩

theorem takeWhile_of_all {α} {p : α → Bool} {l : List α} (h : ∀ x ∈ l, p x = true) :
    l.takeWhile p = l ∧ l.dropWhile p = [] := by
  simpa using And.intro (List.takeWhile_append_of_pos (l₂ := []) h) (List.dropWhile_append_of_pos (l₂ := []) h)

theorem bne_of_not_mem {α} [BEq α] [LawfulBEq α] {a : α} {l : List α} (h : a ∉ l) : ∀ x ∈ l, (x != a) = true :=
  fun _ hx => bne_iff_ne.2 fun e => h (e ▸ hx)

/-- cutting at the first `a`, as `takeWhile (· != a)` / `dropWhile (· != a)` do it -/
theorem takeWhile_ne_append {α} [BEq α] [LawfulBEq α] {a : α} {l : List α} (h : a ∉ l) (r : List α) :
    (l ++ a :: r).takeWhile (· != a) = l ∧ (l ++ a :: r).dropWhile (· != a) = a :: r := by
  rw [List.takeWhile_append_of_pos (bne_of_not_mem h), List.dropWhile_append_of_pos (bne_of_not_mem h)]
  simp

end AthlibVerif
