import AthlibVerif.Model.Match
import AthlibVerif.Lemmas.RegexSound
import AthlibVerif.Checks.Match
/-!
# The capture-reporting matcher is sound and complete for the language of its pattern

`Model/Match.lean` transcribes a backtracking engine (`mAll`: every way to match, in priority order, with
fuel).  It is related to the denotational semantics `RE.lang` of the C04 theorems through a relation `Ms inp g i j`,
"`g` matches `inp` from position `i` to position `j`".  `Mc` is `Ms` with the captures recorded, and `mAll_mc` the one
induction over the engine: soundness and every fact about captures are inductions on `Mc`.  Completeness is an induction
on `Ms` under the fuel budget `costA g + costB g * (remaining input)`, which `fuelOK` bounds by the fuel `matchFirst`
takes.  Which of several matches comes first is not treated here (`Lemmas/Greedy.lean`, for two shapes).  The decidable
conditions on a pattern are defined in `Checks/Match.lean`.  Core Lean only.
-/
namespace AthlibVerif
namespace GRE

inductive Ms (inp : List Nat) : GRE → Nat → Nat → Prop
  | eps (i : Nat) : Ms inp .eps i i
  | cls (m i x : Nat) : inp[i]? = some x → m.testBit x = true → Ms inp (.cls m) i (i+1)
  | cat (a b : GRE) (i j k : Nat) : Ms inp a i j → Ms inp b j k → Ms inp (.cat a b) i k
  | altL (a b : GRE) (i j : Nat) : Ms inp a i j → Ms inp (.alt a b) i j
  | altR (a b : GRE) (i j : Nat) : Ms inp b i j → Ms inp (.alt a b) i j
  | starNil (a : GRE) (i : Nat) : Ms inp (.star a) i i
  | starCons (a : GRE) (i j k : Nat) : i < j → Ms inp a i j → Ms inp (.star a) j k → Ms inp (.star a) i k
  | grp (id : Nat) (a : GRE) (i j : Nat) : Ms inp a i j → Ms inp (.grp id a) i j
  | eolEnd (nl i : Nat) : i = inp.length → Ms inp (.eol nl) i i
  | eolNl (nl i x : Nat) : i + 1 = inp.length → inp[i]? = some x → nl.testBit x = true → Ms inp (.eol nl) i i

/-- a match is a word of the language standing in the input (`inp.drop i = w ++ inp.drop j`; `$` stands for the empty word).
    Stated so, and not as a slice, the cases `cat` and `star` compose by `append_assoc`, without arithmetic on positions. -/
theorem ms_to_lang {inp : List Nat} {g : GRE} {i j : Nat} (h : Ms inp g i j) :
    ∃ w, inp.drop i = w ++ inp.drop j ∧ i + w.length = j ∧ RE.lang (toRE [] g) w := by
  induction h with
  | eps i => exact ⟨[], rfl, rfl, rfl⟩
  | cls m i x hx hb =>
    obtain ⟨hlt, rfl⟩ := List.getElem?_eq_some_iff.1 hx
    exact ⟨[inp[i]], List.drop_eq_getElem_cons hlt, rfl, _, rfl, hb⟩
  | cat a b i j k _ _ ih1 ih2 =>
    obtain ⟨u, hu, rfl, lu⟩ := ih1
    obtain ⟨v, hv, rfl, lv⟩ := ih2
    exact ⟨u ++ v, by rw [hu, hv, List.append_assoc], by rw [List.length_append, Nat.add_assoc], u, v, rfl, lu, lv⟩
  | altL a b i j _ ih1 =>
    obtain ⟨w, hw, hl, lw⟩ := ih1
    exact ⟨w, hw, hl, Or.inl lw⟩
  | altR a b i j _ ih1 =>
    obtain ⟨w, hw, hl, lw⟩ := ih1
    exact ⟨w, hw, hl, Or.inr lw⟩
  | starNil a i => exact ⟨[], rfl, rfl, RE.StarL.nil⟩
  | starCons a i j k hlt _ _ ih1 ih2 =>
    obtain ⟨u, hu, rfl, lu⟩ := ih1
    obtain ⟨v, hv, rfl, lv⟩ := ih2
    refine ⟨u ++ v, by rw [hu, hv, List.append_assoc], by rw [List.length_append, Nat.add_assoc],
      RE.StarL.cons u v ?_ lu lv⟩
    rintro rfl
    exact Nat.lt_irrefl _ hlt
  | grp id a i j _ ih1 => exact ih1
  | eolEnd => exact ⟨[], rfl, rfl, Or.inl rfl⟩
  | eolNl => exact ⟨[], rfl, rfl, Or.inl rfl⟩

theorem ms_le {inp : List Nat} {g : GRE} {i j : Nat} (h : Ms inp g i j) : i ≤ j := by
  obtain ⟨w, _, rfl, _⟩ := ms_to_lang h
  exact Nat.le_add_right _ _

theorem ms_bound {inp : List Nat} {g : GRE} {i j : Nat} (h : Ms inp g i j) (hi : i ≤ inp.length) :
    j ≤ inp.length := by
  obtain ⟨w, hd, rfl, _⟩ := ms_to_lang h
  have := congrArg List.length hd
  simp only [List.length_drop, List.length_append] at this
  omega

inductive Mc (inp : List Nat) : GRE → Nat → Nat → Caps → Prop
  | eps (i : Nat) : Mc inp .eps i i []
  | cls (m i x : Nat) : inp[i]? = some x → m.testBit x = true → Mc inp (.cls m) i (i+1) []
  | cat {a b : GRE} {i j k : Nat} {c1 c2 : Caps} : Mc inp a i j c1 → Mc inp b j k c2 → Mc inp (.cat a b) i k (c2 ++ c1)
  | altL {a b : GRE} {i j : Nat} {c : Caps} : Mc inp a i j c → Mc inp (.alt a b) i j c
  | altR {a b : GRE} {i j : Nat} {c : Caps} : Mc inp b i j c → Mc inp (.alt a b) i j c
  | starNil (a : GRE) (i : Nat) : Mc inp (.star a) i i []
  | starCons {a : GRE} {i j k : Nat} {c1 c2 : Caps} :
      i < j → Mc inp a i j c1 → Mc inp (.star a) j k c2 → Mc inp (.star a) i k (c2 ++ c1)
  | grp {id : Nat} {a : GRE} {i j : Nat} {c : Caps} : Mc inp a i j c → Mc inp (.grp id a) i j ((id, i, j) :: c)
  | eolEnd (nl i : Nat) : i = inp.length → Mc inp (.eol nl) i i []
  | eolNl (nl i x : Nat) : i + 1 = inp.length → inp[i]? = some x → nl.testBit x = true → Mc inp (.eol nl) i i []

theorem Mc.ms {inp : List Nat} {g : GRE} {i j : Nat} {cs : Caps} (h : Mc inp g i j cs) : Ms inp g i j := by
  induction h with
  | eps i => exact .eps i
  | cls m i x hx hb => exact .cls m i x hx hb
  | cat _ _ ih1 ih2 => exact .cat _ _ _ _ _ ih1 ih2
  | altL _ ih => exact .altL _ _ _ _ ih
  | altR _ ih => exact .altR _ _ _ _ ih
  | starNil a i => exact .starNil a i
  | starCons hlt _ _ ih1 ih2 => exact .starCons _ _ _ _ hlt ih1 ih2
  | grp _ ih => exact .grp _ _ _ _ ih
  | eolEnd nl i he => exact .eolEnd nl i he
  | eolNl nl i x he hx hb => exact .eolNl nl i x he hx hb

theorem mAll_mc (inp : List Nat) : ∀ (fuel : Nat) (g : GRE) (i : Nat) (caps : Caps) (r : Nat × Caps),
    r ∈ mAll inp fuel g i caps → ∃ cs, r.2 = cs ++ caps ∧ Mc inp g i r.1 cs := by
  intro fuel
  induction fuel with
  | zero => intro g i caps r h; simp [mAll] at h
  | succ f ih =>
    intro g i caps r h
    cases g with
    | eps => simp [mAll] at h; subst h; exact ⟨[], rfl, .eps i⟩
    | cls m =>
      simp only [mAll, symAt] at h
      split at h
      · next x hx =>
        split at h
        · next hb => simp at h; subst h; exact ⟨[], rfl, .cls m i x hx hb⟩
        · simp at h
      · simp at h
    | cat a b =>
      simp only [mAll, List.mem_flatMap] at h
      obtain ⟨r1, h1, h2⟩ := h
      obtain ⟨c1, e1, m1⟩ := ih a i caps r1 h1
      obtain ⟨c2, e2, m2⟩ := ih b r1.1 r1.2 r h2
      exact ⟨c2 ++ c1, by rw [e2, e1, List.append_assoc], .cat m1 m2⟩
    | alt a b =>
      simp only [mAll, List.mem_append] at h
      rcases h with h | h
      · obtain ⟨c, e, m⟩ := ih a i caps r h; exact ⟨c, e, .altL m⟩
      · obtain ⟨c, e, m⟩ := ih b i caps r h; exact ⟨c, e, .altR m⟩
    | star a =>
      simp only [mAll, List.mem_append, List.mem_flatMap, List.mem_filter, List.mem_singleton] at h
      rcases h with ⟨r1, ⟨h1, hgt⟩, h2⟩ | h
      · obtain ⟨c1, e1, m1⟩ := ih a i caps r1 h1
        obtain ⟨c2, e2, m2⟩ := ih (.star a) r1.1 r1.2 r h2
        exact ⟨c2 ++ c1, by rw [e2, e1, List.append_assoc], .starCons (by simpa using hgt) m1 m2⟩
      · subst h; exact ⟨[], rfl, .starNil a i⟩
    | grp id a =>
      simp only [mAll, List.mem_map] at h
      obtain ⟨r1, h1, rfl⟩ := h
      obtain ⟨c, e, m⟩ := ih a i caps r1 h1
      exact ⟨(id, i, r1.1) :: c, by simp [e], .grp m⟩
    | eol nl =>
      simp only [mAll, symAt] at h
      split at h
      · next he => simp at h; subst h; exact ⟨[], rfl, .eolEnd nl i (by simpa using he)⟩
      · split at h
        · next he =>
          split at h
          · next x hx =>
            split at h
            · next hb => simp at h; subst h; exact ⟨[], rfl, .eolNl nl i x (by simpa using he) hx hb⟩
            · simp at h
          · simp at h
        · simp at h

theorem mAll_sound (inp : List Nat) : ∀ (fuel : Nat) (g : GRE) (i : Nat) (caps : Caps) (r : Nat × Caps),
    r ∈ mAll inp fuel g i caps → Ms inp g i r.1 := by
  intro fuel g i caps r h
  obtain ⟨_, _, m⟩ := mAll_mc inp fuel g i caps r h
  exact m.ms

theorem matchFirst_mc {g : GRE} {inp : List Nat} {r : Nat × Caps} (h : matchFirst g inp = some r) :
    Mc inp g 0 r.1 r.2 := by
  obtain ⟨cs, e, m⟩ := mAll_mc inp _ g 0 [] r (List.mem_of_mem_head? h)
  rw [e, List.append_nil]; exact m

theorem costA_pos (g : GRE) : 1 ≤ costA g := by
  cases g <;> simp [costA] <;> omega

theorem fuel_succ {g : GRE} {n fuel : Nat} (h : costA g + n ≤ fuel) : ∃ f, fuel = f + 1 :=
  ⟨fuel - 1, by have := costA_pos g; omega⟩

theorem mAll_complete (inp : List Nat) {g : GRE} {i j : Nat} (h : Ms inp g i j) :
    ∀ (fuel : Nat) (caps : Caps), i ≤ inp.length → costA g + costB g * (inp.length - i) ≤ fuel →
      ∃ caps', (j, caps') ∈ mAll inp fuel g i caps := by
  induction h with
  | eps i =>
    intro fuel caps _ hf
    obtain ⟨f, rfl⟩ := fuel_succ hf
    exact ⟨caps, by simp [mAll]⟩
  | cls m i x hx hb =>
    intro fuel caps _ hf
    obtain ⟨f, rfl⟩ := fuel_succ hf
    exact ⟨caps, by simp [mAll, symAt, hx, hb]⟩
  | cat a b i j k h1 h2 ih1 ih2 =>
    intro fuel caps hi hf
    obtain ⟨f, rfl⟩ := fuel_succ hf
    have hj := ms_bound h1 hi
    have hij := ms_le h1
    simp only [costA, costB] at hf
    have m1 : costB a * (inp.length - i) ≤ max (costB a) (costB b) * (inp.length - i) :=
      Nat.mul_le_mul_right _ (Nat.le_max_left _ _)
    have m2 : costB b * (inp.length - j) ≤ max (costB a) (costB b) * (inp.length - i) :=
      Nat.mul_le_mul (Nat.le_max_right _ _) (by omega)
    have a1 : costA a ≤ max (costA a) (costA b) := Nat.le_max_left _ _
    have a2 : costA b ≤ max (costA a) (costA b) := Nat.le_max_right _ _
    obtain ⟨c1, hc1⟩ := ih1 f caps hi (by omega)
    obtain ⟨c2, hc2⟩ := ih2 f c1 hj (by omega)
    exact ⟨c2, by simp only [mAll, List.mem_flatMap]; exact ⟨(j, c1), hc1, hc2⟩⟩
  | altL a b i j h1 ih1 =>
    intro fuel caps hi hf
    obtain ⟨f, rfl⟩ := fuel_succ hf
    simp only [costA, costB] at hf
    have m1 : costB a * (inp.length - i) ≤ max (costB a) (costB b) * (inp.length - i) :=
      Nat.mul_le_mul_right _ (Nat.le_max_left _ _)
    have a1 : costA a ≤ max (costA a) (costA b) := Nat.le_max_left _ _
    obtain ⟨c1, hc1⟩ := ih1 f caps hi (by omega)
    exact ⟨c1, by simp only [mAll, List.mem_append]; exact Or.inl hc1⟩
  | altR a b i j h1 ih1 =>
    intro fuel caps hi hf
    obtain ⟨f, rfl⟩ := fuel_succ hf
    simp only [costA, costB] at hf
    have m1 : costB b * (inp.length - i) ≤ max (costB a) (costB b) * (inp.length - i) :=
      Nat.mul_le_mul_right _ (Nat.le_max_right _ _)
    have a1 : costA b ≤ max (costA a) (costA b) := Nat.le_max_right _ _
    obtain ⟨c1, hc1⟩ := ih1 f caps hi (by omega)
    exact ⟨c1, by simp only [mAll, List.mem_append]; exact Or.inr hc1⟩
  | starNil a i =>
    intro fuel caps _ hf
    obtain ⟨f, rfl⟩ := fuel_succ hf
    exact ⟨caps, by simp [mAll]⟩
  | starCons a i j k hlt h1 h2 ih1 ih2 =>
    intro fuel caps hi hf
    obtain ⟨f, rfl⟩ := fuel_succ hf
    have hj := ms_bound h1 hi
    simp only [costA, costB] at hf ih2
    have e1 : (1 + costB a) * (inp.length - i) = (inp.length - i) + costB a * (inp.length - i) := by
      rw [Nat.add_mul, Nat.one_mul]
    have e2 : (1 + costB a) * (inp.length - j) = (inp.length - j) + costB a * (inp.length - j) := by
      rw [Nat.add_mul, Nat.one_mul]
    have m2 : costB a * (inp.length - j) ≤ costB a * (inp.length - i) :=
      Nat.mul_le_mul_left _ (by omega)
    obtain ⟨c1, hc1⟩ := ih1 f caps hi (by omega)
    obtain ⟨c2, hc2⟩ := ih2 f c1 hj (by omega)
    refine ⟨c2, ?_⟩
    simp only [mAll, List.mem_append, List.mem_flatMap, List.mem_filter]
    exact Or.inl ⟨(j, c1), ⟨hc1, by simpa using hlt⟩, hc2⟩
  | grp id a i j h1 ih1 =>
    intro fuel caps hi hf
    obtain ⟨f, rfl⟩ := fuel_succ hf
    simp only [costA, costB] at hf
    obtain ⟨c1, hc1⟩ := ih1 f caps hi (by omega)
    exact ⟨(id, i, j) :: c1, by simp only [mAll, List.mem_map]; exact ⟨(j, c1), hc1, rfl⟩⟩
  | eolEnd nl i he =>
    intro fuel caps _ hf
    obtain ⟨f, rfl⟩ := fuel_succ hf
    exact ⟨caps, by simp [mAll, he]⟩
  | eolNl nl i x he hx hb =>
    intro fuel caps _ hf
    obtain ⟨f, rfl⟩ := fuel_succ hf
    have hne : (i == inp.length) = false := by simp; omega
    exact ⟨caps, by simp [mAll, hne, he, symAt, hx, hb]⟩

theorem fuel_enough (g : GRE) (h : fuelOK g = true) (inp : List Nat) :
    costA g + costB g * (inp.length - 0) ≤ fuelFor inp := by
  simp only [fuelOK, Bool.and_eq_true, decide_eq_true_eq] at h
  unfold fuelFor
  have : costB g * inp.length ≤ 40 * inp.length := Nat.mul_le_mul_right _ h.2
  simp only [Nat.sub_zero]
  omega

theorem matchFirst_isSome_iff (g : GRE) (h : fuelOK g = true) (inp : List Nat) :
    (matchFirst g inp).isSome = true ↔ ∃ j, Ms inp g 0 j := by
  constructor
  · intro hs
    obtain ⟨r, hr⟩ := Option.isSome_iff_exists.1 hs
    exact ⟨r.1, (matchFirst_mc hr).ms⟩
  · rintro ⟨j, hj⟩
    obtain ⟨c, hc⟩ := mAll_complete inp hj (fuelFor inp) [] (Nat.zero_le _) (fuel_enough g h inp)
    unfold matchFirst
    cases hm : mAll inp (fuelFor inp) g 0 [] with
    | nil => rw [hm] at hc; cases hc
    | cons r rest => rfl

def slice (inp : List Nat) (i j : Nat) : List Nat := (inp.drop i).take (j - i)

theorem getElem?_of_drop {inp : List Nat} {i x : Nat} {rest : List Nat} (h : inp.drop i = x :: rest) : inp[i]? = some x := by
  rw [← Nat.add_zero i, ← List.getElem?_drop, h]; rfl

theorem lang_to_ms (inp : List Nat) : ∀ (g : GRE), noEol g = true → ∀ (w rest : List Nat) (i : Nat),
    inp.drop i = w ++ rest → RE.lang (toRE [] g) w → Ms inp g i (i + w.length) := by
  intro g
  induction g with
  | eps => intro _ w rest i _ h; cases h; exact Ms.eps i
  | cls m =>
    intro _ w rest i hd h
    obtain ⟨x, rfl, hb⟩ := h
    exact Ms.cls m i x (getElem?_of_drop hd) hb
  | cat a b iha ihb =>
    intro hn w rest i hd h
    simp only [noEol, Bool.and_eq_true] at hn
    obtain ⟨u, v, rfl, hu, hv⟩ := h
    rw [List.append_assoc] at hd
    rw [List.length_append, ← Nat.add_assoc]
    exact Ms.cat a b i _ _ (iha hn.1 u _ i hd hu)
      (ihb hn.2 v rest _ (by rw [← List.drop_drop, hd, List.drop_left]) hv)
  | alt a b iha ihb =>
    intro hn w rest i hd h
    simp only [noEol, Bool.and_eq_true] at hn
    rcases h with h | h
    · exact Ms.altL a b i _ (iha hn.1 w rest i hd h)
    · exact Ms.altR a b i _ (ihb hn.2 w rest i hd h)
  | star a iha =>
    intro hn w rest i hd h
    have hn' : noEol a = true := by simpa [noEol] using hn
    simp only [toRE, RE.lang] at h
    induction h generalizing i with
    | nil => exact Ms.starNil a i
    | cons u v hne hu _ ihv =>
      rw [List.append_assoc] at hd
      rw [List.length_append, ← Nat.add_assoc]
      exact Ms.starCons a i _ _ (Nat.lt_add_of_pos_right (List.length_pos_iff.2 hne)) (iha hn' u _ i hd hu)
        (ihv _ (by rw [← List.drop_drop, hd, List.drop_left]))
  | grp id a iha =>
    intro hn w rest i hd h
    have hn' : noEol a = true := by simpa [noEol] using hn
    exact Ms.grp id a i _ (iha hn' w rest i hd h)
  | eol nl => intro hn; simp [noEol] at hn

theorem ms_iff_lang (inp : List Nat) (g : GRE) (hn : noEol g = true) (i j : Nat) (hi : i ≤ inp.length) :
    Ms inp g i j ↔ (i ≤ j ∧ j ≤ inp.length ∧ RE.lang (toRE [] g) (slice inp i j)) :=
  ⟨fun h => by
    obtain ⟨w, hd, rfl, hw⟩ := ms_to_lang h
    refine ⟨Nat.le_add_right _ _, ms_bound h hi, ?_⟩
    rwa [slice, hd, Nat.add_sub_cancel_left, List.take_left],
   fun ⟨h1, h2, h3⟩ => by
    have := lang_to_ms inp g hn _ _ i (List.take_append_drop (j - i) (inp.drop i)).symm h3
    rwa [List.length_take, List.length_drop, Nat.min_eq_left (by omega), Nat.add_sub_cancel' h1] at this⟩

/-- patterns anchored by `$`: a match from `i` exists iff the rest of the input is in the language, where `$` reads `ε | "\n"` -/
theorem anchored_iff_lang (inp : List Nat) : ∀ (g : GRE), tailEol g = true → ∀ (i : Nat), i ≤ inp.length →
    ((∃ j, Ms inp g i j) ↔ RE.lang (toRE [] g) (inp.drop i)) := by
  intro g
  induction g with
  | eps => intro h; simp [tailEol] at h
  | cls m => intro h; simp [tailEol] at h
  | star a _ => intro h; simp [tailEol] at h
  | eol nl =>
    intro _ i hi
    simp only [toRE, RE.lang]
    constructor
    · rintro ⟨j, hj⟩
      cases hj with
      | eolEnd _ _ he => left; subst he; simp
      | eolNl _ _ x he hx hb =>
        obtain ⟨hlt, rfl⟩ := List.getElem?_eq_some_iff.1 hx
        exact .inr ⟨_, by rw [List.drop_eq_getElem_cons hlt, List.drop_eq_nil_of_le (by omega)], hb⟩
    · rintro (h | ⟨x, hx, hb⟩)
      · have : inp.length ≤ i := by simpa using h
        exact ⟨i, Ms.eolEnd nl i (by omega)⟩
      · have hl : (inp.drop i).length = 1 := by rw [hx]; rfl
        rw [List.length_drop] at hl
        exact ⟨i, Ms.eolNl nl i x (by omega) (getElem?_of_drop hx) hb⟩
  | cat a b _ ihb =>
    intro ht i hi
    simp only [tailEol, Bool.and_eq_true] at ht
    simp only [toRE, RE.lang]
    constructor
    · rintro ⟨k, hk⟩
      cases hk with
      | cat _ _ _ j _ h1 h2 =>
        obtain ⟨w, hd, -, hw⟩ := ms_to_lang h1
        exact ⟨w, inp.drop j, hd, hw, (ihb ht.2 j (ms_bound h1 hi)).1 ⟨k, h2⟩⟩
    · rintro ⟨u, v, huv, hu, hv⟩
      have h1 := lang_to_ms inp a ht.1 u v i huv hu
      obtain ⟨k, hk⟩ := (ihb ht.2 (i + u.length) (ms_bound h1 hi)).2 (by rwa [← List.drop_drop, huv, List.drop_left])
      exact ⟨k, Ms.cat a b i _ k h1 hk⟩
  | alt a b iha ihb =>
    intro ht i hi
    simp only [tailEol, Bool.and_eq_true] at ht
    simp only [toRE, RE.lang]
    constructor
    · rintro ⟨k, hk⟩
      cases hk with
      | altL _ _ _ _ h => exact Or.inl ((iha ht.1 i hi).1 ⟨k, h⟩)
      | altR _ _ _ _ h => exact Or.inr ((ihb ht.2 i hi).1 ⟨k, h⟩)
    · rintro (h | h)
      · obtain ⟨k, hk⟩ := (iha ht.1 i hi).2 h; exact ⟨k, Ms.altL a b i k hk⟩
      · obtain ⟨k, hk⟩ := (ihb ht.2 i hi).2 h; exact ⟨k, Ms.altR a b i k hk⟩
  | grp id a iha =>
    intro ht i hi
    have ht' : tailEol a = true := by simpa [tailEol] using ht
    simp only [toRE]
    constructor
    · rintro ⟨k, hk⟩
      cases hk with
      | grp _ _ _ _ h => exact (iha ht' i hi).1 ⟨k, h⟩
    · intro h
      obtain ⟨k, hk⟩ := (iha ht' i hi).2 h; exact ⟨k, Ms.grp id a i k hk⟩

theorem matchFirst_anchored (g : GRE) (hf : fuelOK g = true) (ht : tailEol g = true) (inp : List Nat) :
    (matchFirst g inp).isSome = true ↔ RE.lang (toRE [] g) inp := by
  rw [matchFirst_isSome_iff g hf inp, anchored_iff_lang inp g ht 0 (Nat.zero_le _)]; simp

theorem matchFirst_prefix (g : GRE) (hf : fuelOK g = true) (hn : noEol g = true) (inp : List Nat) :
    (matchFirst g inp).isSome = true ↔ ∃ j, j ≤ inp.length ∧ RE.lang (toRE [] g) (inp.take j) := by
  rw [matchFirst_isSome_iff g hf inp]
  constructor
  · rintro ⟨j, hj⟩
    have := (ms_iff_lang inp g hn 0 j (Nat.zero_le _)).1 hj
    exact ⟨j, this.2.1, by simpa [slice] using this.2.2⟩
  · rintro ⟨j, hj, hl⟩
    exact ⟨j, (ms_iff_lang inp g hn 0 j (Nat.zero_le _)).2 ⟨Nat.zero_le _, hj, by simpa [slice] using hl⟩⟩

/-- every recorded capture `(id, a, b)` ends inside the match and is matched from `a` to `b` by the body of a group numbered `id` -/
theorem Mc.span {inp : List Nat} {g : GRE} {i j : Nat} {cs : Caps} (h : Mc inp g i j cs) :
    ∀ c ∈ cs, c.2.2 ≤ j ∧ ∃ body ∈ grpBodies c.1 g, Ms inp body c.2.1 c.2.2 := by
  induction h with
  | eps | cls | starNil | eolEnd | eolNl => intro c hc; cases hc
  | cat _ m2 ih1 ih2 =>
    intro c hc
    rcases List.mem_append.1 hc with hc | hc
    · obtain ⟨q, body, hb, hm⟩ := ih2 c hc
      exact ⟨q, body, List.mem_append_right _ hb, hm⟩
    · obtain ⟨q, body, hb, hm⟩ := ih1 c hc
      exact ⟨Nat.le_trans q (ms_le m2.ms), body, List.mem_append_left _ hb, hm⟩
  | altL _ ih =>
    intro c hc
    obtain ⟨q, body, hb, hm⟩ := ih c hc
    exact ⟨q, body, List.mem_append_left _ hb, hm⟩
  | altR _ ih =>
    intro c hc
    obtain ⟨q, body, hb, hm⟩ := ih c hc
    exact ⟨q, body, List.mem_append_right _ hb, hm⟩
  | starCons _ _ m2 ih1 ih2 =>
    intro c hc
    rcases List.mem_append.1 hc with hc | hc
    · exact ih2 c hc
    · obtain ⟨q, body, hb, hm⟩ := ih1 c hc
      exact ⟨Nat.le_trans q (ms_le m2.ms), body, hb, hm⟩
  | @grp id a i j _ m ih =>
    intro c hc
    rcases List.mem_cons.1 hc with rfl | hc
    · exact ⟨Nat.le_refl _, a, by simp [grpBodies], m.ms⟩
    · obtain ⟨q, body, hb, hm⟩ := ih c hc
      exact ⟨q, body, List.mem_append_right _ hb, hm⟩

/-- the span `re.match` reports for group `id` lies inside the match and is matched by the body of a group numbered `id` -/
theorem span_sound (g : GRE) (inp : List Nat) (r : Nat × Caps) (h : matchFirst g inp = some r)
    (id a b : Nat) (hs : span r.2 id = some (a, b)) :
    a ≤ b ∧ b ≤ r.1 ∧ r.1 ≤ inp.length ∧ ∃ body ∈ grpBodies id g, Ms inp body a b := by
  have m := matchFirst_mc h
  obtain ⟨⟨k, a', b'⟩, hf, hc⟩ := Option.map_eq_some_iff.1 hs
  cases hc
  obtain ⟨q, body, hb, hm⟩ := m.span _ (List.mem_of_find?_eq_some hf)
  have hid : k = id := by simpa using List.find?_some hf
  exact ⟨ms_le hm, q, ms_bound m.ms (Nat.zero_le _), body, hid ▸ hb, hm⟩

theorem Mc.mandatory {inp : List Nat} {ids : List Nat} {g : GRE} {i j : Nat} {cs : Caps} (h : Mc inp g i j cs) :
    mandatory ids g = true → ∃ c ∈ cs, ids.contains c.1 = true := by
  induction h with
  | eps | cls | starNil | starCons | eolEnd | eolNl => intro hm; simp [GRE.mandatory] at hm
  | cat _ _ ih1 ih2 =>
    intro hm
    simp only [GRE.mandatory, Bool.or_eq_true] at hm
    rcases hm with hm | hm
    · obtain ⟨c, hc, hid⟩ := ih1 hm; exact ⟨c, List.mem_append_right _ hc, hid⟩
    · obtain ⟨c, hc, hid⟩ := ih2 hm; exact ⟨c, List.mem_append_left _ hc, hid⟩
  | altL _ ih => intro hm; simp only [GRE.mandatory, Bool.and_eq_true] at hm; exact ih hm.1
  | altR _ ih => intro hm; simp only [GRE.mandatory, Bool.and_eq_true] at hm; exact ih hm.2
  | grp _ ih =>
    intro hm
    simp only [GRE.mandatory, Bool.or_eq_true] at hm
    rcases hm with hm | hm
    · exact ⟨_, List.mem_cons_self, hm⟩
    · obtain ⟨c, hc, hid⟩ := ih hm; exact ⟨c, List.mem_cons_of_mem _ hc, hid⟩

/-- if every match of `g` passes through a group among `ids`, `re.match` reports a span for one of them -/
theorem span_mandatory (g : GRE) (ids : List Nat) (hm : mandatory ids g = true) (inp : List Nat) (r : Nat × Caps)
    (h : matchFirst g inp = some r) : ∃ id ∈ ids, (span r.2 id).isSome = true := by
  obtain ⟨c, hc, hid⟩ := (matchFirst_mc h).mandatory hm
  refine ⟨c.1, by simpa using hid, ?_⟩
  unfold span
  rw [Option.isSome_map, List.find?_isSome]
  exact ⟨c, hc, by simp⟩

end GRE
end AthlibVerif
