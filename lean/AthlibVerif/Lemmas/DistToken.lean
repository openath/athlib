import AthlibVerif.Lemmas.DistTotal
/-!
# The first token of a string

`get_distance` works on `discipline.split()[0]`: a string has a token exactly when it has a character that is not
white space.
-/
namespace AthlibVerif
namespace Codes
open RE GRE

theorem firstToken_ok (d : Str) (h : ∃ c ∈ d, isSpaceC c = false) : ∃ tok, firstToken d = .ok tok := by
  unfold firstToken
  simp only
  split
  · next he =>
    -- nothing is left after the white space, so the white space is all of `d`
    obtain ⟨c, hc, hs⟩ := h
    have hd := List.takeWhile_append_dropWhile (p := isSpaceC) (l := d)
    rw [List.isEmpty_iff.1 he, List.append_nil] at hd
    have := List.all_eq_true.1 List.all_takeWhile c (hd ▸ hc)
    rw [hs] at this; cases this
  · exact ⟨_, rfl⟩

theorem firstToken_self (s : Str) (hne : s ≠ []) (h : ∀ c ∈ s, isSpaceC c = false) : firstToken s = .ok s := by
  unfold firstToken
  have h1 : s.dropWhile isSpaceC = s := by
    cases s with
    | nil => exact (hne rfl).elim
    | cons a as => rw [List.dropWhile_cons_of_neg (by simp [h a List.mem_cons_self])]
  have h2 : s.takeWhile (fun c => !isSpaceC c) = s := (takeWhile_of_all fun a ha => by simp [h a ha]).1
  have h3 : s.isEmpty = false := by cases s <;> simp_all
  simp only [h1, h3, Bool.false_eq_true, if_false, h2]

/-- without a token `split()[0]` raises `IndexError` -/
theorem getDistance_blank (s : Str) (h : ∀ c ∈ s, isSpaceC c = true) (fuel : Nat) :
    getDistance (fuel + 1) s = .error .indexError := by
  have hd : s.dropWhile isSpaceC = [] := (takeWhile_of_all h).2
  simp [getDistance, firstToken, hd]

end Codes
end AthlibVerif
