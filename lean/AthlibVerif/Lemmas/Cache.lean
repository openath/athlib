import AthlibVerif.Model.Cache
/-! Invariant of the result caches (C19): every cached entry equals `truth`, and a dict never
holds more than `cap` entries.  Everything about one call goes through the case principle
`stepCache_cases`; everything about a history through `runWith_inv`. -/
namespace AthlibVerif.Cache

theorem find_mem {k : Nat} {v : Bool} {c : Cache} (h : find k c = some v) : (k, v) ∈ c := by
  induction c with
  | nil => simp [find] at h
  | cons e r ih =>
    obtain ⟨k', v'⟩ := e
    simp only [find] at h
    split at h
    · cases h; subst_vars; simp
    · exact List.mem_cons_of_mem _ (ih h)

theorem set_length (k : Nat) (v : Bool) (c : Cache) : (set k v c).length ≤ c.length + 1 := by
  unfold set; split <;> simp

theorem set_mem {k : Nat} {v : Bool} {c : Cache} {e : Nat × Bool} (h : e ∈ set k v c) :
    e = (k, v) ∨ e ∈ c := by
  unfold set at h
  split at h
  · obtain ⟨a, ha, rfl⟩ := List.mem_map.1 h
    split
    · exact Or.inl rfl
    · exact Or.inr ha
  · simpa using h

theorem find_set (k : Nat) (v : Bool) (c : Cache) : find k (set k v c) = some v := by
  unfold set
  split
  · rename_i w hw
    induction c with
    | nil => simp [find] at hw
    | cons e r ih =>
      obtain ⟨k', v'⟩ := e
      simp only [find] at hw
      by_cases hk : k' = k
      · simp [find, hk]
      · simp only [hk, if_false] at hw
        simp [find, hk, ih hw]
  · simp [find]

theorem Outcome.ofBool_inj {a b : Bool} (h : Outcome.ofBool a = .ofBool b) : a = b := by
  cases a <;> cases b <;> first | rfl | cases h

/-- the suffix is the older part of the dict (newest first); the flag is `false` when the loop trips over its iterator,
which takes an overfull dict (or `maxlen = 0`) -/
theorem evict_spec (cap : Nat) (c : Cache) :
    (evict cap c).1 <:+ c ∧ ((evict cap c).2 = true → (evict cap c).1.length < cap) ∧
      ((evict cap c).2 = false → 0 < cap → cap < c.length) := by
  unfold evict
  by_cases h : c.length < cap
  · rw [if_pos h]
    exact ⟨List.suffix_refl c, fun _ => h, nofun⟩
  · rw [if_neg h]
    cases c with
    | nil => exact ⟨List.suffix_refl _, nofun, fun _ hc => absurd hc h⟩
    | cons a r =>
      dsimp only
      by_cases h2 : r.length < cap
      · rw [if_pos h2]
        exact ⟨List.suffix_cons a r, fun _ => h2, nofun⟩
      · rw [if_neg h2]
        exact ⟨List.suffix_cons a r, nofun, fun _ _ => Nat.lt_succ_of_le (Nat.not_lt.1 h2)⟩

/-- a call either answers from the dict (`hit`), propagates a foreign exception (`err`), raises the expected one
(`rai`), stores its answer in what eviction left (`put`), or dies in the eviction loop (`itr`) -/
theorem stepCache_cases {truth : Nat → Option Bool} {cap : Nat} {c : Cache} {k : Nat} {ef : Bool}
    (Q : Cache × Outcome → Prop)
    (hit : ∀ v, find k c = some v → (v = false → ef = false) → Q (c, .ofBool v))
    (err : truth k = none → Q (c, .error))
    (rai : truth k = some false → ef = true → Q (c, .raised))
    (put : ∀ v c', truth k = some v → (v = false → ef = false) → c' <:+ c → c'.length < cap →
      Q (set k v c', .ofBool v))
    (itr : ∀ c', c' <:+ c → (0 < cap → cap < c.length) → Q (c', .iterError)) :
    Q (stepCache truth cap c k ef) := by
  have hadd : ∀ v, truth k = some v → (v = false → ef = false) → Q (add cap c k v) := by
    intro v hv hef
    obtain ⟨hs, ht, hf⟩ := evict_spec cap c
    unfold add
    generalize evict cap c = r at hs ht hf
    obtain ⟨c', ok⟩ := r
    cases ok with
    | true => exact put v c' hv hef hs (ht rfl)
    | false => exact itr c' hs (hf rfl)
  have hcomp : Q (compute truth cap c k ef) := by
    unfold compute
    split
    · next ht => exact err ht
    · next ht => exact hadd true ht nofun
    · next ht =>
      split
      · next he => exact rai ht he
      · next he => exact hadd false ht fun _ => Bool.eq_false_iff.2 he
  unfold stepCache
  split
  · next v hf =>
    split
    · next hv => exact hit v hf fun h => by simpa [h] using hv
    · exact hcomp
  · exact hcomp

def CInv (truth : Nat → Option Bool) (cap : Nat) (c : Cache) : Prop :=
  (∀ e ∈ c, truth e.1 = some e.2) ∧ c.length ≤ cap

/-- `fresh`, what C19 demands as the answer, at the level of one dict -/
def freshC (truth : Nat → Option Bool) (k : Nat) (ef : Bool) : Outcome :=
  match truth k with
  | none => .error
  | some true => .retTrue
  | some false => if ef then .raised else .retFalse

theorem stepCache_inv {truth : Nat → Option Bool} {cap : Nat} {c : Cache} (k : Nat) (ef : Bool)
    (h : CInv truth cap c) : CInv truth cap (stepCache truth cap c k ef).1 := by
  refine stepCache_cases (fun r => CInv truth cap r.1) (hit := fun _ _ _ => h) (err := fun _ => h) (rai := fun _ _ => h)
    (put := ?put) (itr := ?itr)
  case put => -- the new entry is `truth k`, the others are among the old ones; eviction has made room for it
    intro v c' hv _ hs hl
    refine ⟨fun e he => ?_, Nat.le_trans (set_length k v c') hl⟩
    rcases set_mem he with rfl | he
    · exact hv
    · exact h.1 e (hs.subset he)
  case itr => -- what the loop leaves is a part of the old dict
    exact fun c' hs _ => ⟨fun e he => h.1 e (hs.subset he), Nat.le_trans hs.length_le h.2⟩

/-- the heart of C19: on a dict whose entries equal `truth`, the repaired look-up answers what a
first call answers — in particular a cached `False` is never handed to an `expect_failure` caller -/
theorem stepCache_out {truth : Nat → Option Bool} {cap : Nat} {c : Cache} (k : Nat) (ef : Bool)
    (hc : 0 < cap) (h : CInv truth cap c) : (stepCache truth cap c k ef).2 = freshC truth k ef := by
  have hb : ∀ v, truth k = some v → (v = false → ef = false) → Outcome.ofBool v = freshC truth k ef := by
    intro v hv hef
    unfold freshC
    rw [hv]
    cases v
    · rw [hef rfl]; rfl
    · rfl
  exact stepCache_cases (fun r => r.2 = freshC truth k ef)
    (hit := fun v hf hef => hb v (h.1 _ (find_mem hf)) hef)   -- the cached entry equals `truth`
    (err := fun ht => by simp [freshC, ht])
    (rai := fun ht he => by simp [freshC, ht, he])
    (put := fun v _ hv hef _ _ => hb v hv hef)
    (itr := fun _ _ hlt => absurd (hlt hc) (Nat.not_lt.2 h.2))   -- within capacity, so the loop does not trip

/-- the repair keeps the memo: an answer `True` / `False` is in the dict afterwards (any dict) -/
theorem stepCache_find {truth : Nat → Option Bool} {cap : Nat} {c : Cache} {k : Nat} {ef b : Bool}
    (h : (stepCache truth cap c k ef).2 = .ofBool b) : find k (stepCache truth cap c k ef).1 = some b := by
  revert h
  exact stepCache_cases (fun r => r.2 = .ofBool b → find k r.1 = some b)
    (hit := fun v hf _ hb => Outcome.ofBool_inj hb ▸ hf)   -- the answer is the entry found
    (err := fun _ hb => by cases b <;> cases hb)            -- `err`, `rai`, `itr` answer neither `True` nor `False`
    (rai := fun _ _ hb => by cases b <;> cases hb)
    (put := fun v c' _ _ _ _ hb => Outcome.ofBool_inj hb ▸ find_set k v c')   -- the answer is the entry just stored
    (itr := fun _ _ _ hb => by cases b <;> cases hb)

def Inv (truth : Key → Option Bool) (cap : Nat) (s : Store) : Prop :=
  ∀ fn, CInv (fun i => truth ⟨fn, i⟩) cap (s.get fn)

theorem inv_empty (truth : Key → Option Bool) (cap : Nat) : Inv truth cap Store.empty := by
  intro fn; cases fn <;> exact ⟨by simp [Store.get, Store.empty], by simp [Store.get, Store.empty]⟩

theorem get_put (s : Store) (fn fn' : Fn) (c : Cache) :
    (s.put fn c).get fn' = if fn' = fn then c else s.get fn' := by
  cases fn <;> cases fn' <;> simp [Store.put, Store.get]

theorem step_inv {truth : Key → Option Bool} {cap : Nat} {s : Store} (call : Call)
    (h : Inv truth cap s) : Inv truth cap (step truth cap s call).1 := by
  intro fn
  simp only [step, stepWith, get_put]
  split
  · subst_vars; exact stepCache_inv _ _ (h _)
  · exact h fn

theorem step_out {truth : Key → Option Bool} {cap : Nat} {s : Store} (call : Call)
    (hc : 0 < cap) (h : Inv truth cap s) : (step truth cap s call).2 = fresh truth call :=
  stepCache_out (truth := fun i => truth ⟨call.key.fn, i⟩) _ _ hc (h _)

theorem inv_zero {truth : Key → Option Bool} {s : Store} (h : Inv truth 0 s) : s = Store.empty := by
  obtain ⟨sv, va⟩ := s
  have h1 := (h .schemaValid).2
  have h2 := (h .validAgainst).2
  simp only [Store.get, Nat.le_zero, List.length_eq_zero_iff] at h1 h2
  subst h1 h2; rfl

theorem step_out_empty {truth : Key → Option Bool} {cap : Nat} {s : Store} (call : Call)
    (h : Inv truth cap s) : (step truth cap s call).2 = (step truth cap Store.empty call).2 := by
  cases cap with
  | zero => rw [inv_zero h]
  | succ n => rw [step_out call (Nat.succ_pos n) h, step_out call (Nat.succ_pos n) (inv_empty truth _)]

theorem runWith_inv {st : Store → Call → Store × Outcome} {I : Store → Prop} {f : Call → Outcome}
    (h : ∀ s c, I s → I (st s c).1 ∧ (st s c).2 = f c) (calls : List Call) :
    ∀ {s : Store}, I s → I (runWith st s calls).1 ∧ (runWith st s calls).2 = calls.map f := by
  induction calls with
  | nil => exact fun hs => ⟨hs, rfl⟩
  | cons c cs ih =>
    intro s hs
    obtain ⟨h1, h2⟩ := h s c hs
    obtain ⟨i1, i2⟩ := ih h1
    exact ⟨i1, by simp only [runWith, h2, i2, List.map_cons]⟩

theorem run_spec {truth : Key → Option Bool} {cap : Nat} (calls : List Call) {s : Store}
    (h : Inv truth cap s) :
    Inv truth cap (run truth cap s calls).1 ∧
      (run truth cap s calls).2 = calls.map (fun c => (step truth cap Store.empty c).2) :=
  runWith_inv (fun _ c hs => ⟨step_inv c hs, step_out_empty c hs⟩) calls h

end AthlibVerif.Cache
