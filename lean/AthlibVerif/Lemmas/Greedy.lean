import AthlibVerif.Lemmas.MatchSound
/-!
# Which match the engine reports: greedy runs over one class

For the two prefix patterns of `get_distance` (`^\d+` and `^\d+\.\d*`) existence of a match is not enough: what
remains after the match decides the unit.  A backtracking engine tries the longest run first: for `x*` and `x+` over a
class its result list begins with the end of the run and goes on with ends inside the run only (`Longest`); so what cannot
match in front of an `x` is tried at the end of the run alone, which gives the first result of `x+ y x*` for a class `y`
disjoint from `x`.
-/
namespace AthlibVerif
namespace GRE

/-- `runL m l`: how many symbols of the class `m` stand at the head of `l`; `run m inp i`: the same from position `i` of the input -/
def runL (m : Nat) : List Nat → Nat
  | [] => 0
  | x :: xs => if m.testBit x then runL m xs + 1 else 0

def run (m : Nat) (inp : List Nat) (i : Nat) : Nat := runL m (inp.drop i)

theorem run_eq (m : Nat) (inp : List Nat) (i : Nat) :
    run m inp i = if inp[i]?.any m.testBit = true then run m inp (i + 1) + 1 else 0 := by
  unfold run
  rcases Nat.lt_or_ge i inp.length with h | h
  · rw [List.drop_eq_getElem_cons h, List.getElem?_eq_getElem h]; rfl
  · rw [List.drop_eq_nil_of_le h, List.getElem?_eq_none h]; rfl

theorem run_succ {m : Nat} {inp : List Nat} {i : Nat} (h : run m inp i ≠ 0) : run m inp (i + 1) = run m inp i - 1 := by
  rw [run_eq m inp i] at h ⊢
  split at h
  · rw [if_pos ‹_›, Nat.add_sub_cancel]
  · exact absurd rfl h

theorem run_le_length (m : Nat) (inp : List Nat) (i : Nat) : run m inp i ≤ inp.length - i := by
  have : ∀ l : List Nat, runL m l ≤ l.length := by
    intro l; induction l with
    | nil => simp [runL]
    | cons a as ih => simp only [runL]; split <;> simp <;> omega
  simpa [run] using this (inp.drop i)

theorem mAll_star_eq (inp : List Nat) (f : Nat) (a : GRE) (i : Nat) (caps : Caps) :
    mAll inp (f + 1) (.star a) i caps =
      ((mAll inp f a i caps).filter (fun r => r.1 > i)).flatMap (fun r => mAll inp f (.star a) r.1 r.2) ++ [(i, caps)] := by
  rw [mAll]

theorem mAll_cat_eq (inp : List Nat) (f : Nat) (a b : GRE) (i : Nat) (caps : Caps) :
    mAll inp (f + 1) (.cat a b) i caps = (mAll inp f a i caps).flatMap (fun r => mAll inp f b r.1 r.2) := by
  rw [mAll]

theorem mAll_cls (inp : List Nat) (f m i : Nat) (caps : Caps) :
    mAll inp (f + 1) (.cls m) i caps = if run m inp i = 0 then [] else [(i + 1, caps)] := by
  rw [mAll, run_eq]; unfold symAt
  cases inp[i]? with
  | none => rfl
  | some x => by_cases hb : m.testBit x = true <;> simp [hb]

/-- a result list that begins with the end `j` and goes on with ends at which a symbol of the class `m` stands, the captures
    untouched: what the engine answers for `x*` and `x+` over `m` (the longest run first).  Whatever fails in front of such a
    symbol is therefore tried at `j` only (`Longest.flatMap`). -/
def Longest (inp : List Nat) (m : Nat) (caps : Caps) (j : Nat) (l : List (Nat × Caps)) : Prop :=
  ∃ rest, l = (j, caps) :: rest ∧ ∀ q ∈ rest, ∃ i, q = (i, caps) ∧ run m inp i ≠ 0

theorem Longest.flatMap {β : Type} {inp : List Nat} {m : Nat} {caps : Caps} {j : Nat} {l : List (Nat × Caps)}
    (h : Longest inp m caps j l) (k : Nat × Caps → List β) (hk : ∀ i, run m inp i ≠ 0 → k (i, caps) = []) :
    l.flatMap k = k (j, caps) := by
  obtain ⟨rest, rfl, hrest⟩ := h
  rw [List.flatMap_cons, List.flatMap_eq_nil_iff.2 fun q hq => ?_, List.append_nil]
  obtain ⟨i, rfl, hi⟩ := hrest q hq
  exact hk i hi

/-- `x*` over a class: the whole run first -/
theorem mAll_star_cls (inp : List Nat) (m : Nat) (caps : Caps) :
    ∀ (r i fuel : Nat), run m inp i = r → r + 2 ≤ fuel →
      Longest inp m caps (i + r) (mAll inp fuel (.star (.cls m)) i caps) := by
  intro r
  induction r with
  | zero =>
    intro i fuel hr hf
    obtain ⟨f, rfl⟩ : ∃ f, fuel = f + 2 := ⟨fuel - 2, by omega⟩
    rw [mAll_star_eq, mAll_cls, if_pos hr]
    exact ⟨[], rfl, nofun⟩
  | succ r ih =>
    intro i fuel hr hf
    obtain ⟨f, rfl⟩ : ∃ f, fuel = f + 2 := ⟨fuel - 2, by omega⟩
    obtain ⟨rest, hrest, hall⟩ := ih (i + 1) (f + 1) (by rw [run_succ (by omega), hr]; rfl) (by omega)
    rw [mAll_star_eq, mAll_cls, if_neg (by omega)]
    simp only [List.filter_cons, show decide (i + 1 > i) = true by simp, if_true, List.filter_nil, List.flatMap_cons,
      List.flatMap_nil, List.append_nil, hrest]
    refine ⟨rest ++ [(i, caps)], by rw [Nat.add_assoc, Nat.add_comm 1 r]; rfl, fun q hq => ?_⟩
    rcases List.mem_append.1 hq with hq | hq
    · exact hall q hq
    · exact ⟨i, List.mem_singleton.1 hq, by omega⟩

/-- `x+` over a class: nothing without a run, else the whole run first -/
theorem mAll_plus_cls_none {inp : List Nat} {m i : Nat} (h : run m inp i = 0) (caps : Caps) :
    ∀ fuel, mAll inp fuel (plusG m) i caps = []
  | 0 | 1 => rfl
  | f + 2 => by rw [plusG, mAll_cat_eq, mAll_cls, if_pos h]; rfl

theorem mAll_plus_cls {inp : List Nat} {m i : Nat} (h : run m inp i ≠ 0) (caps : Caps) (fuel : Nat)
    (hf : run m inp i + 3 ≤ fuel) : Longest inp m caps (i + run m inp i) (mAll inp fuel (plusG m) i caps) := by
  obtain ⟨f, rfl⟩ : ∃ f, fuel = f + 2 := ⟨fuel - 2, by omega⟩
  have := mAll_star_cls inp m caps _ (i + 1) (f + 1) (run_succ h) (by omega)
  rw [plusG, mAll_cat_eq, mAll_cls, if_neg h]
  simpa only [List.flatMap_cons, List.flatMap_nil, List.append_nil,
    show i + 1 + (run m inp i - 1) = i + run m inp i by omega] using this

theorem run_disjoint {m y : Nat} (hdisj : ∀ x, m.testBit x = true → y.testBit x = false) {inp : List Nat} {i : Nat}
    (h : run m inp i ≠ 0) : run y inp i = 0 := by
  rw [run_eq] at h ⊢
  cases hx : inp[i]? with
  | none => rfl
  | some x =>
    rw [hx] at h
    by_cases hb : m.testBit x = true
    · simp [hdisj x hb]
    · simp [hb] at h

theorem matchFirst_floatG (inp : List Nat) (m y : Nat) (hdisj : ∀ x, m.testBit x = true → y.testBit x = false)
    (r : Nat) (hr : run m inp 0 = r + 1) :
    matchFirst (floatG m y) inp =
      (match inp[r + 1]? with
       | some x => if y.testBit x then some (r + 2 + run m inp (r + 2), []) else none
       | none => none) := by
  unfold matchFirst
  have hrl := run_le_length m inp 0
  obtain ⟨F, hF⟩ : ∃ F, fuelFor inp = F + 3 := ⟨fuelFor inp - 3, by unfold fuelFor; omega⟩
  have hFl : inp.length + 10 ≤ F := by unfold fuelFor at hF; omega
  have hplus := mAll_plus_cls (inp := inp) (m := m) (i := 0) (by omega) [] (F + 2) (by omega)
  rw [hr, Nat.zero_add] at hplus
  -- in front of an `x` no `y` can follow, so only the end of the run is followed up: a `y` there, then the longest run of `x*`
  rw [hF, floatG, mAll_cat_eq, hplus.flatMap _ fun i hi => by rw [mAll_cat_eq, mAll_cls, if_pos (run_disjoint hdisj hi)]; rfl]
  rw [mAll_cat_eq, mAll]
  unfold symAt
  cases hx : inp[r + 1]? with
  | none => rfl
  | some x =>
    cases hb : y.testBit x with
    | false => simp [hb]
    | true =>
      simp only [hb, if_true, List.flatMap_cons, List.flatMap_nil, List.append_nil]
      have hlen := run_le_length m inp (r + 2)
      obtain ⟨_, hstar, -⟩ := mAll_star_cls inp m [] _ (r + 2) (F + 1) rfl (by omega)
      rw [hstar]; rfl

theorem matchFirst_plusG (inp : List Nat) (m : Nat) (r : Nat) (hr : run m inp 0 = r + 1) :
    matchFirst (plusG m) inp = some (r + 1, []) := by
  have hrl := run_le_length m inp 0
  obtain ⟨_, h, -⟩ := mAll_plus_cls (inp := inp) (m := m) (i := 0) (by omega) [] (fuelFor inp) (by unfold fuelFor; omega)
  rw [matchFirst, h, hr, Nat.zero_add]; rfl

theorem matchFirst_plusG_none (inp : List Nat) (m : Nat) (hr : run m inp 0 = 0) : matchFirst (plusG m) inp = none := by
  rw [matchFirst, mAll_plus_cls_none hr]; rfl

theorem matchFirst_floatG_none (inp : List Nat) (m y : Nat) (hr : run m inp 0 = 0) : matchFirst (floatG m y) inp = none := by
  obtain ⟨F, hF⟩ : ∃ F, fuelFor inp = F + 1 := ⟨fuelFor inp - 1, by unfold fuelFor; omega⟩
  rw [matchFirst, floatG, hF, mAll_cat_eq, mAll_plus_cls_none hr]; rfl

end GRE
end AthlibVerif
