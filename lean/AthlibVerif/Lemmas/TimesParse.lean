import AthlibVerif.Lemmas.Times
/-! `parse_hms` of fields joined by `:` or by `;` is the loop `sec = sec * 60 + field` over those fields
(`parseHms_joinWith`): splitting undoes the join, since a field of the grammar holds digits, dots and signs only. -/
namespace AthlibVerif.Times
open AthlibVerif.Digits

theorem splitSign_digit (c : Char) (r : List Char) (h : isDig c = true) : splitSign (c :: r) = (false, c :: r) := by
  unfold splitSign
  split
  · rename_i e; injection e with e1 _; subst e1; exact absurd h (by decide)
  · rename_i e; injection e with e1 _; subst e1; exact absurd h (by decide)
  · rfl

theorem mem_splitSign (s : List Char) (c : Char) (h : c ∈ s) : c ∈ (splitSign s).2 ∨ c = '-' ∨ c = '+' := by
  unfold splitSign
  split
  · exact (List.mem_cons.1 h).elim (fun e => .inr (.inl e)) .inl
  · exact (List.mem_cons.1 h).elim (fun e => .inr (.inr e)) .inl
  · exact .inl h

theorem splitDot_eq (l : List Char) : ∀ a b, splitDot l = (a, b) →
    (b = none ∧ l = a) ∨ (∃ f, b = some f ∧ l = a ++ '.' :: f) := by
  intro a b h
  by_cases hd : '.' ∈ l
  · obtain ⟨as, bs, rfl, hn⟩ := List.eq_append_cons_of_mem hd
    rw [splitDot_dot as bs hn] at h
    cases h
    exact Or.inr ⟨bs, rfl, rfl⟩
  · rw [splitDot_nodot l hd] at h
    cases h
    exact Or.inl ⟨rfl, rfl⟩

theorem parseField_digits (d : List Char) (hne : d ≠ []) (hd : allDig d = true) :
    parseField d = some ⟨true, (val d : Int), 0⟩ := by
  match d, hne with
  | c :: r, _ =>
    have hc : isDig c = true := by rw [allDig_cons, Bool.and_eq_true] at hd; exact hd.1
    unfold parseField
    rw [splitSign_digit c r hc, splitDot_nodot _ (dot_not_mem _ hd)]
    simp [hd]

theorem parseField_decimal (d fd : List Char) (hne : d ≠ []) (hd : allDig d = true) (hfd : allDig fd = true) :
    parseField (d ++ '.' :: fd) = some ⟨false, (val (d ++ fd) : Int), fd.length⟩ := by
  match d, hne with
  | c :: r, _ =>
    have hc : isDig c = true := by rw [allDig_cons, Bool.and_eq_true] at hd; exact hd.1
    unfold parseField
    rw [List.cons_append, splitSign_digit c (r ++ '.' :: fd) hc, ← List.cons_append,
      splitDot_dot _ _ (dot_not_mem _ hd)]
    simp [hd, hfd]

theorem parseField_chars (s : List Char) (x : Num) (h : parseField s = some x) :
    ∀ c ∈ s, isDig c = true ∨ c = '.' ∨ c = '-' ∨ c = '+' := by
  have hbody : ∀ c ∈ (splitSign s).2, isDig c = true ∨ c = '.' := by
    unfold parseField at h
    generalize hsd : splitDot (splitSign s).2 = sd at h
    obtain ⟨i, b⟩ := sd
    rcases splitDot_eq _ _ _ hsd with ⟨rfl, h2⟩ | ⟨f, rfl, h2⟩
    · by_cases hi : i ≠ [] ∧ allDig i = true
      · intro c hc
        rw [h2] at hc
        exact Or.inl (List.all_eq_true.1 hi.2 c hc)
      · simp [hi] at h
    · by_cases hi : (i ≠ [] ∨ f ≠ []) ∧ allDig i = true ∧ allDig f = true
      · intro c hc
        rw [h2] at hc
        rcases List.mem_append.1 hc with hc | hc
        · exact Or.inl (List.all_eq_true.1 hi.2.1 c hc)
        · exact (List.mem_cons.1 hc).elim Or.inr fun hc => Or.inl (List.all_eq_true.1 hi.2.2 c hc)
      · simp [hi] at h
  intro c hc
  rcases mem_splitSign s c hc with h | h | h
  · exact (hbody c h).elim .inl fun e => .inr (.inl e)
  · exact .inr (.inr (.inl h))
  · exact .inr (.inr (.inr h))

theorem parseField_no_sep (s : List Char) (x : Num) (h : parseField s = some x) : ':' ∉ s ∧ ';' ∉ s := by
  have := parseField_chars s x h
  constructor
  · intro hm; rcases this _ hm with h | h | h | h <;> revert h <;> decide
  · intro hm; rcases this _ hm with h | h | h | h <;> revert h <;> decide

/-- `sep.join(fields)` -/
def joinWith (sep : Char) : List (List Char) → List Char
  | [] => []
  | [f] => f
  | f :: g :: rest => f ++ sep :: joinWith sep (g :: rest)

theorem splitOn_nosep (sep : Char) (l : List Char) (h : sep ∉ l) : splitOn sep l = [l] := by
  induction l with
  | nil => rfl
  | cons c cs ih =>
    have hc : c ≠ sep := fun e => h (by simp [e])
    have hcs : sep ∉ cs := fun e => h (by simp [e])
    simp only [splitOn, hc, if_false, ih hcs]

theorem splitOn_append (sep : Char) (a b : List Char) (h : sep ∉ a) :
    splitOn sep (a ++ sep :: b) = a :: splitOn sep b := by
  induction a with
  | nil => simp [splitOn]
  | cons c cs ih =>
    have hc : c ≠ sep := fun e => h (by simp [e])
    have hcs : sep ∉ cs := fun e => h (by simp [e])
    simp only [List.cons_append, splitOn, hc, if_false, ih hcs]

theorem splitOn_joinWith (sep : Char) (fs : List (List Char)) (hne : fs ≠ []) (h : ∀ f ∈ fs, sep ∉ f) :
    splitOn sep (joinWith sep fs) = fs := by
  induction fs with
  | nil => exact absurd rfl hne
  | cons f rest ih =>
    match rest with
    | [] => exact splitOn_nosep sep f (h f (by simp))
    | g :: rest' =>
      rw [joinWith, splitOn_append sep f _ (h f (by simp)), ih (by simp) (fun x hx => h x (by simp [hx]))]

theorem mem_joinWith (sep c : Char) (fs : List (List Char)) (h : c ∈ joinWith sep fs) :
    c = sep ∨ ∃ f ∈ fs, c ∈ f := by
  induction fs with
  | nil => simp [joinWith] at h
  | cons f rest ih =>
    match rest with
    | [] => exact Or.inr ⟨f, by simp, h⟩
    | g :: rest' =>
      rw [joinWith] at h
      rcases List.mem_append.1 h with h | h
      · exact Or.inr ⟨f, by simp, h⟩
      · rcases List.mem_cons.1 h with h | h
        · exact Or.inl h
        · rcases ih h with h | ⟨x, hx, hc⟩
          · exact Or.inl h
          · exact Or.inr ⟨x, by simp [hx], hc⟩

theorem sep_mem_joinWith (sep : Char) (f g : List Char) (rest : List (List Char)) :
    sep ∈ joinWith sep (f :: g :: rest) := by
  rw [joinWith]; simp

theorem zero_add60 (x : Num) : Num.zero.add60 x = x := by
  cases x with
  | mk b n e => simp [Num.add60, Num.zero]

theorem parseFields_cons (acc x : Num) (f : List Char) (fs : List (List Char)) (h : parseField f = some x) :
    parseFields acc (f :: fs) = parseFields (acc.add60 x) fs := by
  simp only [parseFields, h]

theorem parseFields_eq_none_iff (acc : Num) (fs : List (List Char)) :
    parseFields acc fs = none ↔ ∃ f ∈ fs, parseField f = none := by
  induction fs generalizing acc with
  | nil => simp [parseFields]
  | cons f rest ih =>
    cases hx : parseField f with
    | none => simp [parseFields, hx]
    | some x => rw [parseFields_cons acc x f rest hx, ih]; simp [hx]

theorem parseHms_joinWith (sep : Char) (hsep : sep = ':' ∨ sep = ';') (fs : List (List Char))
    (hne : fs ≠ []) (hno : ∀ f ∈ fs, ':' ∉ f ∧ ';' ∉ f) :
    parseHms (joinWith sep fs) = toExcept (parseFields .zero fs) := by
  match fs, hne with
  | [f], _ =>
    have := hno f (by simp)
    unfold parseHms
    simp only [joinWith, List.contains_iff_mem, this.1, this.2, if_false]
    cases hx : parseField f with
    | none => simp [parseFields, hx]
    | some x => simp [parseFields, hx, zero_add60]
  | f :: g :: rest, _ =>
    unfold parseHms
    rcases hsep with rfl | rfl
    · have hin : ':' ∈ joinWith ':' (f :: g :: rest) := sep_mem_joinWith _ _ _ _
      rw [splitOn_joinWith ':' _ (by simp) (fun x hx => (hno x hx).1)]
      simp only [List.contains_iff_mem, hin, if_true]
    · have hin : ';' ∈ joinWith ';' (f :: g :: rest) := sep_mem_joinWith _ _ _ _
      have hnot : ':' ∉ joinWith ';' (f :: g :: rest) := by
        intro hm
        rcases mem_joinWith _ _ _ hm with e | ⟨x, hx, hc⟩
        · exact absurd e (by decide)
        · exact (hno x hx).1 hc
      rw [splitOn_joinWith ';' _ (by simp) (fun x hx => (hno x hx).2)]
      simp only [List.contains_iff_mem, hin, hnot, if_true, if_false]

theorem parseHms_joinWith_some (sep : Char) (hsep : sep = ':' ∨ sep = ';') (fs : List (List Char)) (hne : fs ≠ [])
    (x : Num) (h : parseFields .zero fs = some x) : parseHms (joinWith sep fs) = .ok x := by
  rw [parseHms_joinWith sep hsep fs hne, h]
  · rfl
  · intro f hf
    cases hx : parseField f with
    | none => rw [(parseFields_eq_none_iff _ _).2 ⟨f, hf, hx⟩] at h; cases h
    | some y => exact parseField_no_sep f y hx

/-- `acc * 60 + x` is exact: on any common scale `10^E` the numerators add up -/
theorem add60_exact (acc x : Num) (E : Nat) (h1 : acc.exp ≤ E) (h2 : x.exp ≤ E) :
    (acc.add60 x).exp = max acc.exp x.exp ∧
    (acc.add60 x).num * (10 : Int) ^ (E - (acc.add60 x).exp) =
      acc.num * 60 * (10 : Int) ^ (E - acc.exp) + x.num * (10 : Int) ^ (E - x.exp) := by
  refine ⟨rfl, ?_⟩
  simp only [Num.add60]
  rw [Int.add_mul, Int.mul_assoc (acc.num * 60), ← Int.pow_add, Int.mul_assoc x.num, ← Int.pow_add]
  congr 3 <;> omega

end AthlibVerif.Times
