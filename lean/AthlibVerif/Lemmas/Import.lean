import AthlibVerif.Lemmas.EraseStep
import AthlibVerif.Lemmas.RoundRobin
import AthlibVerif.Lemmas.CardLog
/-!
# The card import, whole competitions

A history has the shape "registrations, then for each bar: the bar, then trials".  `from_matrix` replays such a
history as "registrations, then for each bar: the bar, then attempt 1 of everybody in card order, attempt 2,
attempt 3, leaving out the passes" (`imported`).  If the history was accepted in full, so is the import, and the
two end in competitions that show the same — state, heights, bests, places and cards, pass marks aside
(`import_blocks`): the attempt-by-attempt order is a chain of exchanges (`blocks_swaps`, so `swaps_run` applies), and
then the passes are dropped (`erase_run`).
-/
namespace AthlibVerif.HJ
open AthlibVerif.Ranking

abbrev Block := Int × List Op

def flat (bs : List Block) : List Op := bs.flatMap (fun b => Op.bar b.1 :: b.2)

def replayed (order : List Nat) (bs : List Block) : List Op :=
  bs.flatMap (fun b => Op.bar b.1 :: roundRobin order (fun a => marksOf a b.2))

/-- What the card import calls: as `replayed`, passes left out (`bib_trial(bib, '-')` does nothing) — after the round
    robin, since `attempts[a]` counts a `-` as an attempt.  Validated, not proved: tools/checks/c08.py compares it (driver
    command `hj import`, on `blocksOf` of the model's log) with the calls `from_matrix(to_matrix())` makes. -/
def imported (order : List Nat) (bs : List Block) : List Op :=
  bs.flatMap (fun b => Op.bar b.1 :: (roundRobin order (fun a => marksOf a b.2)).filter notPass)

/-- `known`: every athlete who jumps at the bar is in `order`; `short`: at most three marks of an athlete at a bar, as many
    as the import reads (`for a in _012`). -/
structure BlockOK (order : List Nat) (b : Block) : Prop where
  trials : ∀ op ∈ b.2, ∃ a t, op = Op.trial a t
  known : ∀ a t, Op.trial a t ∈ b.2 → a ∈ order
  short : ∀ a, (marksOf a b.2).length ≤ 3

theorem thread_marks (b : Nat) (l : List Op) : thread b l = (marksOf b l).map (Op.trial b) := by
  unfold thread marksOf
  rw [List.map_filterMap, ← List.filterMap_eq_filter]
  congr 1
  funext op
  cases op with
  | add x => rfl
  | bar x => rfl
  | trial b' t =>
    by_cases e : b' = b
    · subst e; simp [Option.guard, bibOf]
    · simp [Option.guard, bibOf, e]

/-- one block; `blocks_swaps` is every block of a history -/
theorem block_swaps (order : List Nat) (hn : order.Nodup) (b : Block) (hb : BlockOK order b) :
    Swaps b.2 (roundRobin order (fun a => marksOf a b.2)) := by
  refine swaps_of_threads b.2 _ hb.trials (roundRobin_trials order _) (fun a => ?_)
  rw [thread_roundRobin order _ hn a (hb.short a), thread_marks]
  split
  · rfl
  · next ha =>
    rw [marksOf_nil_of_absent a b.2 (fun t ht => ha (hb.known a t ht))]
    rfl

theorem flat_cons (b : Block) (rest : List Block) : flat (b :: rest) = (Op.bar b.1 :: b.2) ++ flat rest := by
  simp [flat]
theorem replayed_cons (order : List Nat) (b : Block) (rest : List Block) :
    replayed order (b :: rest) = (Op.bar b.1 :: roundRobin order (fun a => marksOf a b.2)) ++ replayed order rest := by
  simp [replayed]

/-- `block_swaps`, block after block -/
theorem blocks_swaps (order : List Nat) (hn : order.Nodup) (bs : List Block) (hb : ∀ b ∈ bs, BlockOK order b) :
    Swaps (flat bs) (replayed order bs) := by
  induction bs with
  | nil => exact Swaps.refl _
  | cons b rest ih =>
    rw [flat_cons, replayed_cons]
    have h1 := ((block_swaps order hn b (hb b (by simp))).append_right (flat rest)).cons (Op.bar b.1)
    have h2 := (ih (fun b' hb' => hb b' (List.mem_cons_of_mem _ hb'))).append_left
      (Op.bar b.1 :: roundRobin order (fun a => marksOf a b.2))
    exact h1.trans h2

theorem replay_blocks (order : List Nat) (hn : order.Nodup) (bs : List Block) : ∀ (pre : List Op),
    (∀ b ∈ bs, BlockOK order b) → allOk {} (pre ++ flat bs) = true →
    allOk {} (pre ++ replayed order bs) = true ∧
    SameButRanked (run {} (pre ++ flat bs)) (run {} (pre ++ replayed order bs)) :=
  fun pre hb hok => swaps_run {} good_init ((blocks_swaps order hn bs hb).append_left pre) hok

theorem obsP_of_same (a b : Comp) (h : SameButRanked a b) : obsP a = obsP b := by
  unfold obsP; rw [h.1, h.2.1, h.2.2.1]

theorem import_blocks (adds : List Op) (hadds : ∀ op ∈ adds, ∃ b, op = Op.add b) (order : List Nat) (hn : order.Nodup)
    (bs : List Block) (hb : ∀ b ∈ bs, BlockOK order b) (hok : allOk {} (adds ++ flat bs) = true) :
    allOk {} (adds ++ imported order bs) = true ∧
    obsP (run {} (adds ++ imported order bs)) = obsP (run {} (adds ++ flat bs)) := by
  obtain ⟨h1, h2⟩ := replay_blocks order hn bs adds hb hok
  have hfil : (adds ++ replayed order bs).filter notPass = adds ++ imported order bs := by
    rw [List.filter_append]
    congr 1
    · apply List.filter_eq_self.2
      intro op hop
      obtain ⟨b, rfl⟩ := hadds op hop
      rfl
    · exact List.filter_flatMap
  obtain ⟨h3, h4⟩ := erase_run _ {} {} einv_init good_init.wf sim_init h1
  rw [hfil] at h3 h4
  exact ⟨h3, (sim_obsP _ _ h4).trans (obsP_of_same _ _ h2).symm⟩

def blocksStep (acc : List Op × List Block) (op : Op) : List Op × List Block :=
  match op with
  | .bar h => (acc.1, acc.2 ++ [(h, [])])
  | op => match acc.2.reverse with
    | [] => (acc.1 ++ [op], acc.2)
    | last :: rest => (acc.1, (((last.1, last.2 ++ [op]) :: rest).reverse))

/-- `.1`: the calls before the first bar; `.2`: the blocks -/
def blocksOf (log : List Op) : List Op × List Block := log.foldl blocksStep ([], [])

theorem flat_append (a b : List Block) : flat (a ++ b) = flat a ++ flat b := by simp [flat]

theorem blocksStep_flat (acc : List Op × List Block) (op : Op) :
    (blocksStep acc op).1 ++ flat (blocksStep acc op).2 = acc.1 ++ flat acc.2 ++ [op] := by
  obtain ⟨pre, bs⟩ := acc
  rcases List.eq_nil_or_concat bs with rfl | ⟨rest, last, rfl⟩
  · cases op <;> simp [blocksStep, flat]
  · cases op <;> simp [blocksStep, flat]

theorem blocksOf_flat (log : List Op) : (blocksOf log).1 ++ flat (blocksOf log).2 = log := by
  unfold blocksOf
  suffices h : ∀ (acc : List Op × List Block), (log.foldl blocksStep acc).1 ++ flat (log.foldl blocksStep acc).2 = acc.1 ++ flat acc.2 ++ log by
    simpa [flat] using h ([], [])
  induction log with
  | nil => intro acc; simp
  | cons op rest ih =>
    intro acc
    rw [List.foldl_cons, ih, blocksStep_flat]
    simp

end AthlibVerif.HJ
