import AthlibVerif.Lemmas.EraseRank
import AthlibVerif.Lemmas.Interleave
/-!
# Dropping the passes, call by call

`Sim c c'`: `c'` is what `c` would be had nobody ever passed.  An accepted call that is not a pass is accepted on
both sides and keeps `Sim`; an accepted pass keeps `Sim` with the other side standing still (`sim_step`).  Hence the
passes can be dropped from a history accepted in full (`erase_run`), and every reachable competition has such a
counterpart (`sim_reachable`).
-/
namespace AthlibVerif.HJ
open AthlibVerif.Ranking AthlibVerif.Props.C02

def AllElim (c : Comp) : Prop := ∀ j ∈ c.jumpers, ElimMark j

theorem ElimMark_act (j : Jumper) (n : Nat) (hgt : Int) (t : Trial) (hn : 0 < n) (he : j.eliminated = false) :
    ElimMark (j.actCore n hgt t) := by
  obtain ⟨init, last, _, hc⟩ := actCore_card_split j hn hgt t
  intro hel
  rw [actCore_eliminated _ _ _ _ he] at hel
  exact ⟨init, last, t, hc, by cases t <;> simp_all⟩

theorem AllElim.accepts {c c' : Comp} {op : Op} (hw : WF c) (h : AllElim c) (ha : Accepts c op c') : AllElim c' :=
  -- a new athlete and one called back are in; a bar and a new place leave the in / out flag and the card alone
  ha.forall_records (P := fun _ j => ElimMark j) hw (new := fun _ _ _ hel => (by cases hel)) (bar := fun _ _ _ hk => hk)
    (act := fun t k _ hh he _ _ _ => ElimMark_act k _ _ t (List.length_pos_iff.2 hh) he)
    (rerank := fun k k' hr hk => by
      cases hr with
      | place => exact hk
      | back => exact fun hel => (by cases hel)) h

/-- What the simulation asks of the side with the passes: `Good` with `AllElim`, `AllBest` and `RU`.  It holds of every
    reachable state, `(sim_reachable c h).1`, and is the largest bundle of such invariants at hand. -/
structure EInv (c : Comp) : Prop where
  good : Good c
  elim : AllElim c
  best : AllBest c
  ru : RU c

theorem EInv.step {c : Comp} (h : EInv c) (op : Op) : EInv (step c op).1 :=
  ⟨h.good.step op,
   step_preserves op h.elim (fun _ => h.elim.accepts h.good.wf),
   step_preserves op h.best (fun _ => h.best.accepts h.good.wf),
   step_preserves op h.ru (fun _ => h.ru.accepts h.good.wf)⟩

theorem einv_init : EInv {} :=
  ⟨good_init, (fun j hj => by cases hj), (fun j hj => by cases hj), Or.inl ⟨(fun j hj => by cases hj), Or.inl rfl⟩⟩

/-- While nobody has a clearance (`Unranked`) the places need not agree: a pass has `_rankj` number the left side while
    the right one still has the places of the registration.  They are not shown then (`obsP`), and `check_started` asks
    for a place only in `won` and `drawn`. -/
def Sim (c c' : Comp) : Prop := ∃ ps, Paired ps c c' ∧ (Unranked c ∨ PlacesEq ps)

theorem noP_snoc_p (cell : List Trial) : noP (cell ++ [Trial.p]) = noP cell := by
  unfold noP; rw [List.filter_append]; simp

theorem JSim.pass {j j2 : Jumper} (h : JSim j j2) (n : Nat) (hgt : Int) (hlen : j.card.length ≤ n) (hn : 0 < n) :
    JSim (j.actCore n hgt .p) j2 := by
  obtain ⟨hl1, hg1⟩ := marked_card j.card n .p hlen hn
  refine ⟨h.bib, h.best, h.bestIdx, h.elim, h.lim, h.consec, fun _ => rfl, ?_⟩
  show CardSim (appendLast (padCard j.card n) .p) j2.card
  refine CardSim.of_cells (by rw [hl1]; exact Nat.le_trans h.card.len hlen) (fun i => ?_)
  rw [hg1 i, h.card.cells i]
  split
  · rw [noP_snoc_p]
  · rfl

theorem sim_add (c c' : Comp) (hs : Sim c c') (b : Nat) (hok : (step c (.add b)).2 = .ok) :
    (step c' (.add b)).2 = .ok ∧ Sim (step c (.add b)).1 (step c' (.add b)).1 := by
  obtain ⟨ps, h, hpl⟩ := hs
  rw [step_add] at hok ⊢
  rw [step_add]
  by_cases hc : c.phase = .scheduled ∧ c.find b = none
  · have hc' : c'.phase = .scheduled ∧ c'.find b = none := ⟨by rw [h.phase]; exact hc.1, h.by.find_none JSim.bib b hc.2⟩
    rw [if_pos hc, if_pos hc']
    refine ⟨rfl, ps ++ [(({ bib := b, place := c.jumpers.length + 1 } : Jumper), ({ bib := b, place := c'.jumpers.length + 1 } : Jumper))], ?_, ?_⟩
    · refine ⟨by simp [addResult, h.left], by simp [addResult, h.right], ?_, h.phase, h.heights, ?_⟩
      · intro p hp
        rcases List.mem_append.1 hp with hp | hp
        · exact h.sim p hp
        · simp only [List.mem_singleton] at hp
          subst hp
          exact ⟨rfl, rfl, rfl, rfl, rfl, rfl, fun e => e, ⟨Nat.le_refl _, (fun cell hcell => by cases hcell), fun i => by simp [noP]⟩⟩
      · exact List.Perm.append_right _ h.ranked
    · rcases hpl with hu | hpl
      · left
        refine ⟨?_, Or.inl hc.1⟩
        intro j hj
        simp only [addResult, List.mem_append, List.mem_singleton] at hj
        rcases hj with hj | rfl
        · exact hu.1 j hj
        · rfl
      · right
        intro p hp
        rcases List.mem_append.1 hp with hp | hp
        · exact hpl p hp
        · simp only [List.mem_singleton] at hp
          subst hp
          show c'.jumpers.length + 1 = c.jumpers.length + 1
          rw [h.left, h.right, List.length_map, List.length_map]
  · rw [if_neg hc] at hok; cases hok

theorem sim_bar (c c' : Comp) (hs : Sim c c') (x : Int) (hok : (step c (.bar x)).2 = .ok) :
    (step c' (.bar x)).2 = .ok ∧ Sim (step c (.bar x)).1 (step c' (.bar x)).1 := by
  obtain ⟨ps, h, hpl⟩ := hs
  rw [step_bar] at hok ⊢
  rw [step_bar]
  by_cases hc : barAllowed c x
  · have hc' : barAllowed c' x := by unfold barAllowed at hc ⊢; rw [h.phase, h.heights]; exact hc
    rw [if_pos hc, if_pos hc']
    refine ⟨rfl, _, (h.by.map (fun k => { k with dismissed := k.eliminated && k.dismissed })
      (fun k => { k with dismissed := k.eliminated && k.dismissed }) (fun p hp => ?_) (barResult c x) (barResult c' x)
      (barResult_jumpers c x) (barResult_jumpers c' x) (by simp only [barResult, h.phase]) (by simp only [barResult, h.heights])
      h.ranked).paired, ?_⟩
    · have hsim := h.sim p hp
      refine ⟨hsim.bib, hsim.best, hsim.bestIdx, hsim.elim, hsim.lim, hsim.consec, fun e => ?_, hsim.card⟩
      simp only [hsim.elim, Bool.and_eq_true] at e ⊢
      exact ⟨e.1, hsim.dis e.2⟩
    · rcases hpl with hu | hpl
      · left
        refine ⟨fun j' hj' => ?_, ?_⟩
        · rw [barResult_jumpers] at hj'
          obtain ⟨j, hj, rfl⟩ := List.mem_map.1 hj'
          exact hu.1 j hj
        · rw [barResult_phase]
          rcases hu.2 with e | e
          · right; simp [e]
          · right; simp [e]
      · right
        intro q hq
        obtain ⟨p, hp, rfl⟩ := List.mem_map.1 hq
        exact hpl p hp
  · rw [if_neg hc] at hok; cases hok

theorem sim_trial (c c' : Comp) (hi : EInv c) (hw' : WF c') (hs : Sim c c') (b : Nat) (t : Trial) (ht : t ≠ .p)
    (hok : (step c (.trial b t)).2 = .ok) :
    (step c' (.trial b t)).2 = .ok ∧ Sim (step c (.trial b t)).1 (step c' (.trial b t)).1 := by
  obtain ⟨ps, h, hpl⟩ := hs
  obtain ⟨j, j', hfd, hta, hne, hact, hst⟩ := accepted_trial c b t hok
  obtain ⟨p0, hp0, hp0e, hfd'⟩ := h.by.find JSim.bib hw' b j hfd
  have hw := hi.good.wf
  have hmj := (find_some_mem c b j hfd).1
  have hfl := hi.good.flags j hmj
  obtain ⟨he, hd, hlt⟩ := act_some j j' _ _ t hact
  have hn : 0 < c.heights.length := List.length_pos_iff.2 hne
  have hsim0 : JSim j p0.2 := hp0e ▸ h.sim p0 hp0
  obtain ⟨k', hact', hjk⟩ := act_sim c.heights.length (c.heights.getLast?.getD 0) j p0.2 j' t ht hsim0 hfl.len hn
    (hfl.openCell he hd) hact
  have hta' : trialAllowed c' p0.2 = true := by
    unfold trialAllowed at hta ⊢
    rw [h.phase]
    rcases hpl with hu | hpl
    · rcases hu.2 with e | e
      · simp [e] at hta
      · simp [e]
    · rw [hpl p0 hp0, hp0e]; exact hta
  have hst' := trial_accepts c' b t p0.2 k' hfd' hta' (by rw [h.heights]; exact hne) (by rw [h.heights]; exact hact')
  rw [hst, hst']
  refine ⟨rfl, ?_⟩
  have hP := ((h.by.update JSim.bib j' k' hjk).logTrial b b t t).paired
  have hlen : ∀ k ∈ (logTrial c b t j').jumpers, k.card.length ≤ (logTrial c b t j').heights.length := by
    intro k hk
    rcases mem_update_cases c j' k hk with rfl | hk
    · rw [act_core j k _ _ t hact]
      exact (FlagInv_act c.heights j t hfl hne he hd hlt).len
    · exact (hi.good.flags k hk).len
  have hem : ∀ k ∈ (logTrial c b t j').jumpers, ElimMark k := by
    intro k hk
    rcases mem_update_cases c j' k hk with rfl | hk
    · rw [act_core j k _ _ t hact]
      exact ElimMark_act j _ _ t hn he
    · exact hi.elim k hk
  obtain ⟨ps', hP', hpl'⟩ := rank_paired _ _ _ hP (logTrial_WF c hw b t j') (logTrial_WF c' hw' b t k') hlen hem
  exact ⟨ps', hP', Or.inr hpl'⟩

theorem sim_pass (c c' : Comp) (hi : EInv c) (hs : Sim c c') (b : Nat) (hok : (step c (.trial b .p)).2 = .ok) :
    Sim (step c (.trial b .p)).1 c' := by
  obtain ⟨ps, h, hpl⟩ := hs
  obtain ⟨j, j', hfd, hta, hne, hact, hst⟩ := accepted_trial c b .p hok
  have hw := hi.good.wf
  have hf := hi.good.flags
  have hn : 0 < c.heights.length := List.length_pos_iff.2 hne
  rw [hst]
  simp only
  rw [pass_rank_eq c hw hf b j j' hfd hne hact]
  -- the records with the pass entered: `actCore … .p` on the passer's, the others untouched; no key changes
  obtain ⟨hrec, hwL⟩ := logTrial_records c hw b .p j hfd (fun k => k.actCore c.heights.length (c.heights.getLast?.getD 0) .p)
    (fun k => actCore_bib k _ _ .p)
  rw [← act_core j j' _ _ .p hact] at hrec hwL
  have hkeys : ∀ k ∈ c.jumpers,
      (if k.bib == b then k.actCore c.heights.length (c.heights.getLast?.getD 0) .p else k).key = k.key := by
    intro k hk
    split
    · exact key_pass c.heights k (hi.best k hk) hne
    · rfl
  have hcount : ∀ key : Key, ((logTrial c b .p j').jumpers.filter (fun k => Key.lt k.key key)).length =
      (c.jumpers.filter (fun k => Key.lt k.key key)).length := by
    intro key
    rw [hrec, List.filter_map, List.length_map]
    congr 1
    apply List.filter_congr
    intro k hk
    simp only [Function.comp_apply, hkeys k hk]
  -- the passer's pair stays related (`JSim.pass`); then the left side alone is re-numbered
  have h1 := h.by.map (fun k => if k.bib == b then k.actCore c.heights.length (c.heights.getLast?.getD 0) .p else k) id
    (fun p hp => by
      show JSim (if p.1.bib == b then _ else p.1) p.2
      split
      · exact (h.sim p hp).pass _ _ (hf p.1 (h.by.mem_left p hp)).len hn
      · exact h.sim p hp)
    (logTrial c b .p j') c' hrec (List.map_id _).symm h.phase h.heights h.ranked
  have h2 := h1.map (fun k => { k with place := 1 + ((logTrial c b .p j').jumpers.filter (fun q => Key.lt q.key k.key)).length }) id
    (fun q hq => (h1.sim q hq).setPlace _ q.2.place) (rankj (logTrial c b .p j')) c' (rankj_jumpers _ hwL) (List.map_id _).symm
    (by rw [(rankj_frame _).2.2.1]; exact h.phase) (by rw [(rankj_frame _).2.1]; exact h.heights)
    (by rw [rankj_ranked_list]; exact h.ranked.trans (sortRanked_perm _ _).symm)
  refine ⟨_, h2.paired, ?_⟩
  have hunr : Unranked c → Unranked (rankj (logTrial c b .p j')) := by
    intro hu
    refine ⟨fun k1 hk1 => ?_, by rw [(rankj_frame _).2.2.1]; exact hu.2⟩
    rw [rankj_jumpers _ hwL, hrec] at hk1
    obtain ⟨k2, hk2, rfl⟩ := List.mem_map.1 hk1
    obtain ⟨k, hk, rfl⟩ := List.mem_map.1 hk2
    show (if k.bib == b then _ else k).bestIdx = none
    split
    · exact hu.1 k hk
    · exact hu.1 k hk
  rcases hpl with hu | hpl
  · exact Or.inl (hunr hu)
  · rcases hi.ru with hu | ⟨hr, _⟩
    · exact Or.inl (hunr hu)
    · -- the keys, hence the places, are as before the pass
      right
      intro q hq
      obtain ⟨q1, hq1, rfl⟩ := List.mem_map.1 hq
      obtain ⟨p, hp, rfl⟩ := List.mem_map.1 hq1
      show p.2.place = 1 + ((logTrial c b .p j').jumpers.filter (fun k => Key.lt k.key (if p.1.bib == b then _ else p.1).key)).length
      rw [hkeys p.1 (h.by.mem_left p hp), hcount, ← hr p.1 (h.by.mem_left p hp)]
      exact hpl p hp

def notPass : Op → Bool
  | .trial _ .p => false
  | _ => true

theorem sim_init : Sim {} {} :=
  ⟨[], ⟨rfl, rfl, (fun p hp => by cases hp), rfl, rfl, List.Perm.refl _⟩, Or.inr (fun p hp => by cases hp)⟩

theorem sim_step (c c' : Comp) (hi : EInv c) (hw' : WF c') (hs : Sim c c') (op : Op) (hok : (step c op).2 = .ok) :
    allOk c' ([op].filter notPass) = true ∧ WF (run c' ([op].filter notPass)) ∧
      Sim (step c op).1 (run c' ([op].filter notPass)) := by
  have both : notPass op = true → (step c' op).2 = .ok ∧ Sim (step c op).1 (step c' op).1 →
      allOk c' ([op].filter notPass) = true ∧ WF (run c' ([op].filter notPass)) ∧
        Sim (step c op).1 (run c' ([op].filter notPass)) := by
    intro hnp h
    rw [List.filter_cons_of_pos hnp]
    exact ⟨by simp [allOk, h.1], step_WF c' op hw', h.2⟩
  cases op with
  | add b => exact both rfl (sim_add c c' hs b hok)
  | bar x => exact both rfl (sim_bar c c' hs x hok)
  | trial b t =>
    cases t with
    | p => exact ⟨rfl, hw', sim_pass c c' hi hs b hok⟩
    | o => exact both rfl (sim_trial c c' hi hw' hs b .o (fun e => by cases e) hok)
    | x => exact both rfl (sim_trial c c' hi hw' hs b .x (fun e => by cases e) hok)
    | r => exact both rfl (sim_trial c c' hi hw' hs b .r (fun e => by cases e) hok)

theorem erase_run (ops : List Op) : ∀ (c c' : Comp), EInv c → WF c' → Sim c c' → allOk c ops = true →
    allOk c' (ops.filter notPass) = true ∧ Sim (run c ops) (run c' (ops.filter notPass)) := by
  induction ops with
  | nil => intro c c' _ _ hs _; exact ⟨rfl, hs⟩
  | cons op rest ih =>
    intro c c' hi hw' hs hok
    simp only [allOk, Bool.and_eq_true, beq_iff_eq] at hok
    obtain ⟨h1, hw1, hs1⟩ := sim_step c c' hi hw' hs op hok.1
    obtain ⟨h2, hs2⟩ := ih _ _ (hi.step op) hw1 hs1 hok.2
    rw [show op :: rest = [op] ++ rest from rfl, List.filter_append, allOk_append, run_append, run_append, h1, h2]
    exact ⟨rfl, hs2⟩

theorem sim_reachable (c : Comp) (h : Reachable c) : EInv c ∧ ∃ c', WF c' ∧ Sim c c' := by
  induction h with
  | init => exact ⟨einv_init, {}, good_init.wf, sim_init⟩
  | step c op _ ih =>
    obtain ⟨hi, c', hw', hs⟩ := ih
    refine ⟨hi.step op, ?_⟩
    by_cases hok : (step c op).2 = .ok
    · exact ⟨_, (sim_step c c' hi hw' hs op hok).2⟩
    · rw [step_refused c op hok]
      exact ⟨c', hw', hs⟩

theorem dropWhile_replicate_nil (k : Nat) (l : List (List Trial)) :
    (List.replicate k ([] : List Trial) ++ l).dropWhile (·.isEmpty) = l.dropWhile (·.isEmpty) :=
  List.dropWhile_append_of_pos fun a ha => by rw [List.eq_of_mem_replicate ha]; rfl

theorem stripCard_sim (a a' : List (List Trial)) (h : CardSim a a') : stripCard a' = stripCard a := by
  -- the card with passes, marks only, is the other card followed by empty cells
  have hmap' : a'.map noP = a' := by
    have : a'.map noP = a'.map id := List.map_congr_left (fun cell hc => noP_clean cell (h.clean cell hc))
    rw [this, List.map_id]
  have hsplit : a.map noP = a' ++ List.replicate (a.length - a'.length) [] := by
    apply List.ext_getElem?
    intro i
    have hc := h.cells i
    rw [List.getD_eq_getElem?_getD, List.getD_eq_getElem?_getD] at hc
    rw [List.getElem?_map, List.getElem?_append]
    by_cases hi : i < a'.length
    · have hi2 : i < a.length := Nat.lt_of_lt_of_le hi h.len
      simp only [hi, if_true]
      rw [List.getElem?_eq_getElem hi, List.getElem?_eq_getElem hi2] at hc ⊢
      simp only [Option.getD_some, Option.map_some] at hc ⊢
      rw [hc]
    · simp only [hi, if_false]
      rw [List.getElem?_eq_none (by omega)] at hc
      by_cases hi2 : i < a.length
      · rw [List.getElem?_eq_getElem hi2] at hc ⊢
        simp only [Option.getD_none, Option.getD_some, Option.map_some] at hc ⊢
        rw [← hc, List.getElem?_replicate]
        simp; omega
      · rw [List.getElem?_eq_none (by omega), List.getElem?_eq_none (by simp; omega)]
        rfl
  have h1 : stripCard a = ((a.map noP).reverse.dropWhile (·.isEmpty)).reverse := rfl
  have h2 : stripCard a' = ((a'.map noP).reverse.dropWhile (·.isEmpty)).reverse := rfl
  rw [h1, h2, hsplit, hmap', List.reverse_append, List.reverse_replicate, dropWhile_replicate_nil]

theorem sim_obsP (c c' : Comp) (hs : Sim c c') : obsP c' = obsP c := by
  obtain ⟨ps, h, hpl⟩ := hs
  unfold obsP
  rw [h.phase, h.heights, h.left, h.right, List.map_map, List.map_map]
  simp only [Prod.mk.injEq, true_and]
  apply List.map_congr_left
  intro p hp
  have hsim := h.sim p hp
  simp only [Function.comp_apply]
  refine Prod.ext hsim.bib (Prod.ext ?_ (Prod.ext hsim.best (stripCard_sim _ _ hsim.card)))
  simp only
  rw [hsim.bestIdx]
  rcases hpl with hu | hpl
  · rw [hu.1 p.1 (h.by.mem_left p hp)]; rfl
  · rw [hpl p hp]

end AthlibVerif.HJ
