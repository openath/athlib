import AthlibVerif.Lemmas.Commute
import AthlibVerif.Lemmas.Reachable
/-!
# Interleavings of the athletes' trials

Lifts `trial_commute` to whole call sequences: exchanging two adjacent trials of different athletes anywhere in
a fully accepted sequence gives a fully accepted sequence with the same outcome up to the order of the ranked list
(`swap_run`), hence so does any chain of such exchanges (`swaps_run`); and two blocks of trials in which every
athlete's calls are the same in the same order are such a chain apart (`swaps_of_threads`).
-/
namespace AthlibVerif.HJ
open AthlibVerif.Props.C02

def run (c : Comp) (ops : List Op) : Comp := ops.foldl (fun c op => (step c op).1) c

def allOk (c : Comp) : List Op → Bool
  | [] => true
  | op :: rest => (step c op).2 == .ok && allOk (step c op).1 rest

theorem run_append (c : Comp) (a b : List Op) : run c (a ++ b) = run (run c a) b := by
  simp [run, List.foldl_append]

theorem allOk_append (a : List Op) : ∀ (c : Comp) (b : List Op), allOk c (a ++ b) = (allOk c a && allOk (run c a) b) := by
  induction a with
  | nil => intro c b; simp [allOk, run]
  | cons op rest ih =>
    intro c b
    simp only [List.cons_append, allOk, ih, run, List.foldl_cons, Bool.and_assoc]

/-- What `trial_commute` asks of a state.  `started` plays no part in it: it is carried because `inv_accepts` keeps
    `DrawnInv` and `StartedInv` together.  It holds of every reachable state: `good_init`, `Good.step`, `Good.run`; for
    `Reachable c`, `(sim_reachable c h).1.good` of Lemmas/EraseStep. -/
structure Good (c : Comp) : Prop where
  wf : WF c
  flags : AllFlags c
  won : WonInv c
  drawn : DrawnInv c
  started : StartedInv c

theorem Good.step {c : Comp} (h : Good c) (op : Op) : Good (step c op).1 :=
  step_preserves op h (fun _ ha =>
    have hds := inv_accepts h.drawn h.started ha
    ⟨ha.wf h.wf, h.flags.accepts h.wf ha, h.won.accepts h.wf ha, hds.1, hds.2⟩)

theorem Good.run {c : Comp} (h : Good c) (ops : List Op) : Good (run c ops) := by
  induction ops generalizing c with
  | nil => exact h
  | cons op rest ih => exact ih (h.step op)

theorem good_init : Good {} where
  wf := ⟨by simp, by simp⟩
  flags := fun j hj => by cases hj
  won := fun h => by cases h
  drawn := fun h => by cases h
  started := by unfold StartedInv; simp

theorem same_run (ops : List Op) : ∀ (a b : Comp), WF a → SameButRanked a b →
    allOk a ops = allOk b ops ∧ SameButRanked (run a ops) (run b ops) := by
  induction ops with
  | nil => intro a b _ h; exact ⟨rfl, h⟩
  | cons op rest ih =>
    intro a b hw h
    obtain ⟨ho, hs⟩ := step_same a b op hw h
    obtain ⟨h1, h2⟩ := ih _ _ (step_WF a op hw) hs
    refine ⟨?_, h2⟩
    simp only [allOk, ho, h1]

theorem swap_run (c : Comp) (hg : Good c) (pre post : List Op) (b1 b2 : Nat) (t1 t2 : Trial) (hne : b1 ≠ b2)
    (h : allOk c (pre ++ [Op.trial b1 t1, Op.trial b2 t2] ++ post) = true) :
    allOk c (pre ++ [Op.trial b2 t2, Op.trial b1 t1] ++ post) = true ∧
    SameButRanked (run c (pre ++ [Op.trial b1 t1, Op.trial b2 t2] ++ post))
      (run c (pre ++ [Op.trial b2 t2, Op.trial b1 t1] ++ post)) := by
  have hgm := hg.run pre
  rw [List.append_assoc, allOk_append, allOk_append] at h
  simp only [Bool.and_eq_true] at h
  obtain ⟨hpre, hmid, hpost⟩ := h
  simp only [allOk, Bool.and_true, Bool.and_eq_true, beq_iff_eq] at hmid
  obtain ⟨h1, h2⟩ := hmid
  obtain ⟨k2, k1, hsame⟩ := trial_commute (run c pre) hgm.wf hgm.flags hgm.won hgm.drawn b1 b2 t1 t2 hne h1 h2
  obtain ⟨hok, hfin⟩ := same_run post (run (run c pre) [Op.trial b1 t1, Op.trial b2 t2])
    (run (run c pre) [Op.trial b2 t2, Op.trial b1 t1]) (hgm.run _).wf hsame
  constructor
  · rw [List.append_assoc, allOk_append, allOk_append]
    simp only [Bool.and_eq_true]
    refine ⟨hpre, ?_, ?_⟩
    · simp only [allOk, Bool.and_true, Bool.and_eq_true, beq_iff_eq]
      exact ⟨k2, k1⟩
    · rw [← hok]; exact hpost
  · rw [List.append_assoc, List.append_assoc, run_append, run_append, run_append, run_append]
    exact hfin

def Swap (l l' : List Op) : Prop :=
  ∃ pre post b1 t1 b2 t2, b1 ≠ b2 ∧ l = pre ++ [Op.trial b1 t1, Op.trial b2 t2] ++ post ∧
    l' = pre ++ [Op.trial b2 t2, Op.trial b1 t1] ++ post

inductive Swaps : List Op → List Op → Prop
  | refl (l : List Op) : Swaps l l
  | tail {a b c : List Op} : Swaps a b → Swap b c → Swaps a c

theorem Swap.symm {l l' : List Op} (h : Swap l l') : Swap l' l := by
  obtain ⟨pre, post, b1, t1, b2, t2, hne, e1, e2⟩ := h
  exact ⟨pre, post, b2, t2, b1, t1, hne.symm, e2, e1⟩

theorem Swaps.trans {a b c : List Op} (h1 : Swaps a b) (h2 : Swaps b c) : Swaps a c := by
  induction h2 with
  | refl => exact h1
  | tail _ hs ih => exact Swaps.tail ih hs

theorem Swaps.single {a b : List Op} (h : Swap a b) : Swaps a b := Swaps.tail (Swaps.refl a) h

theorem Swaps.symm {a b : List Op} (h : Swaps a b) : Swaps b a := by
  induction h with
  | refl => exact Swaps.refl _
  | tail _ hs ih => exact (Swaps.single hs.symm).trans ih

theorem Swap.append (p q : List Op) {l l' : List Op} (h : Swap l l') : Swap (p ++ l ++ q) (p ++ l' ++ q) := by
  obtain ⟨pre, post, b1, t1, b2, t2, hne, rfl, rfl⟩ := h
  exact ⟨p ++ pre, post ++ q, b1, t1, b2, t2, hne, by simp, by simp⟩

theorem Swaps.append (p q : List Op) {l l' : List Op} (h : Swaps l l') : Swaps (p ++ l ++ q) (p ++ l' ++ q) := by
  induction h with
  | refl => exact Swaps.refl _
  | tail _ hs ih => exact Swaps.tail ih (hs.append p q)

theorem Swaps.append_left (p : List Op) {l l' : List Op} (h : Swaps l l') : Swaps (p ++ l) (p ++ l') := by
  simpa using h.append p []

theorem Swaps.append_right (q : List Op) {l l' : List Op} (h : Swaps l l') : Swaps (l ++ q) (l' ++ q) := by
  simpa using h.append [] q

theorem Swaps.cons (x : Op) {l l' : List Op} (h : Swaps l l') : Swaps (x :: l) (x :: l') := h.append_left [x]

theorem swaps_run (c : Comp) (hg : Good c) {l l' : List Op} (hs : Swaps l l') (h : allOk c l = true) :
    allOk c l' = true ∧ SameButRanked (run c l) (run c l') := by
  induction hs with
  | refl => exact ⟨h, SameButRanked.refl _⟩
  | tail _ hsw ih =>
    obtain ⟨hok, hsame⟩ := ih
    obtain ⟨pre, post, b1, t1, b2, t2, hne, e1, e2⟩ := hsw
    subst e1; subst e2
    obtain ⟨hok', hsame'⟩ := swap_run c hg pre post b1 b2 t1 t2 hne hok
    exact ⟨hok', hsame.trans hsame'⟩

def bibOf : Op → Option Nat
  | .trial b _ => some b
  | _ => none

def thread (b : Nat) (l : List Op) : List Op := l.filter (fun op => bibOf op == some b)

theorem bubble (bx : Nat) (tx : Trial) (v : List Op) (u : List Op)
    (hu : ∀ y ∈ u, ∃ b t, y = Op.trial b t ∧ b ≠ bx) :
    Swaps (u ++ Op.trial bx tx :: v) (Op.trial bx tx :: (u ++ v)) := by
  induction u with
  | nil => exact Swaps.refl _
  | cons y u' ih =>
    obtain ⟨b, t, hyb, hb⟩ := hu y (by simp)
    subst hyb
    have h1 := (ih (fun z hz => hu z (by simp [hz]))).cons (Op.trial b t)
    refine Swaps.tail h1 ?_
    exact ⟨[], u' ++ v, b, t, bx, tx, hb, rfl, rfl⟩

theorem bibOf_trial (b : Nat) (t : Trial) : bibOf (Op.trial b t) = some b := rfl

theorem swaps_of_threads (l : List Op) : ∀ (l' : List Op), (∀ op ∈ l, ∃ b t, op = Op.trial b t) →
    (∀ op ∈ l', ∃ b t, op = Op.trial b t) → (∀ b, thread b l = thread b l') → Swaps l l' := by
  induction l with
  | nil =>
    intro l' _ ht' hth
    cases l' with
    | nil => exact Swaps.refl _
    | cons y ys =>
      obtain ⟨b, t, rfl⟩ := ht' y (by simp)
      have := hth b
      simp [thread, bibOf] at this
  | cons x xs ih =>
    intro l' ht ht' hth
    obtain ⟨bx, tx, rfl⟩ := ht x (by simp)
    -- split l' at the first call of athlete bx: it is x itself.  Taken out of l', it leaves a list with the threads of xs
    -- (the induction applies), and `bubble` moves it back from the front to its place
    obtain ⟨u, r, rfl, hu, hr⟩ := exists_span (fun op => bibOf op != some bx) l'
    have hthu : thread bx u = [] := List.filter_eq_nil_iff.2 (fun z hz => by simpa using hu z hz)
    have hbx := hth bx
    unfold thread at hbx hthu
    rw [List.filter_append, hthu, List.nil_append, List.filter_cons] at hbx
    simp only [bibOf_trial, beq_self_eq_true, if_true] at hbx
    cases r with
    | nil => cases hbx
    | cons y v =>
      have hyb : bibOf y = some bx := by simpa using hr y rfl
      rw [List.filter_cons] at hbx
      simp only [hyb, beq_self_eq_true, if_true] at hbx
      injection hbx with hxy hrest
      subst hxy
      have hthreads : ∀ b, thread b xs = thread b (u ++ v) := by
        intro b
        have hb := hth b
        unfold thread at hb ⊢
        rw [List.filter_append] at hb ⊢
        by_cases e : b = bx
        · subst e
          rw [hthu, List.nil_append]
          exact hrest
        · have hx : (bibOf (Op.trial bx tx) == some b) = false := by
            simpa [bibOf_trial] using fun h => e h.symm
          rw [List.filter_cons, List.filter_cons] at hb
          simpa only [hx, Bool.false_eq_true, if_false] using hb
      have htuv : ∀ op ∈ u ++ v, ∃ b t, op = Op.trial b t := by
        intro op hop
        rcases List.mem_append.1 hop with h | h
        · exact ht' op (by simp [h])
        · exact ht' op (by simp [h])
      have ih' := ih _ (fun op hop => ht op (by simp [hop])) htuv hthreads
      have hb := bubble bx tx v u (by
        intro z hz
        obtain ⟨b, t, rfl⟩ := ht' z (by simp [hz])
        exact ⟨b, t, rfl, by simpa [bibOf_trial] using hu _ hz⟩)
      exact (ih'.cons _).trans hb.symm

theorem swaps_of_same_threads (l : List Op) : ∀ (l' : List Op), (∀ op ∈ l, ∃ b t, op = Op.trial b t) → l.Perm l' →
    (∀ b, thread b l = thread b l') → Swaps l l' :=
  fun l' ht hp hth => swaps_of_threads l l' ht (fun op hop => ht op (hp.mem_iff.2 hop)) hth

end AthlibVerif.HJ
