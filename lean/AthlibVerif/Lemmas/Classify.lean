/-! first-match classification over families that never overlap (or overlap only with equal labels)
    does not depend on the order of the families -/
namespace AthlibVerif

def classify {α σ : Type} (fams : List (α × (σ → Bool))) (s : σ) : Option α :=
  (fams.find? (fun f => f.2 s)).map (·.1)

theorem classify_of_mem {α σ : Type} (fams : List (α × (σ → Bool))) (s : σ)
    (hdisj : ∀ f ∈ fams, ∀ g ∈ fams, f.2 s = true → g.2 s = true → f.1 = g.1)
    (f : α × (σ → Bool)) (hf : f ∈ fams) (hs : f.2 s = true) : classify fams s = some f.1 := by
  unfold classify
  cases h : fams.find? (fun f => f.2 s) with
  | none =>
    have := List.find?_eq_none.1 h f hf
    simp [hs] at this
  | some g =>
    have hg := List.mem_of_find?_eq_some h
    have hgs : g.2 s = true := by simpa using List.find?_some h
    simp [hdisj g hg f hf hgs hs]

theorem classify_none {α σ : Type} (fams : List (α × (σ → Bool))) (s : σ)
    (h : ∀ f ∈ fams, f.2 s = false) : classify fams s = none := by
  unfold classify
  rw [List.find?_eq_none.2]
  · rfl
  · intro f hf; simp [h f hf]

theorem classify_order_free {α σ : Type} (fams fams' : List (α × (σ → Bool))) (s : σ)
    (hdisj : ∀ f ∈ fams, ∀ g ∈ fams, f.2 s = true → g.2 s = true → f.1 = g.1)
    (hsame : ∀ f, f ∈ fams ↔ f ∈ fams') : classify fams s = classify fams' s := by
  by_cases h : ∃ f ∈ fams, f.2 s = true
  · obtain ⟨f, hf, hs⟩ := h
    rw [classify_of_mem fams s hdisj f hf hs]
    rw [classify_of_mem fams' s (fun a ha b hb => hdisj a ((hsame a).2 ha) b ((hsame b).2 hb)) f ((hsame f).1 hf) hs]
  · have hn : ∀ f ∈ fams, f.2 s = false := fun f hf => Bool.of_not_eq_true fun hfs => h ⟨f, hf, hfs⟩
    rw [classify_none fams s hn, classify_none fams' s (fun f hf => hn f ((hsame f).2 hf))]

theorem classify_order_free_of_disjoint {α σ : Type} (fams fams' : List (α × (σ → Bool))) (s : σ)
    (hd : fams.Pairwise (fun f g => f.2 s = true → g.2 s = true → False))
    (hsame : ∀ f, f ∈ fams ↔ f ∈ fams') : classify fams s = classify fams' s := by
  refine classify_order_free fams fams' s ?_ hsame
  clear hsame
  induction hd with
  | nil => intro f hf; cases hf
  | @cons a l hR _ ih =>
    intro f hf g hg hfs hgs
    rcases List.mem_cons.1 hf with rfl | hf' <;> rcases List.mem_cons.1 hg with rfl | hg'
    · rfl
    · exact (hR g hg' hfs hgs).elim
    · exact (hR f hf' hgs hfs).elim
    · exact ih f hf' g hg' hfs hgs

end AthlibVerif
