import AthlibVerif.Model.Codes
import AthlibVerif.Model.Perf
import AthlibVerif.Lemmas.Digits
import AthlibVerif.Lemmas.ListFacts
/-!
# The digit texts of `Codes` / `Perf` are those of `Digits`

`Codes.natStr` prints what `Digits.render` prints, and `Codes.pyInt` (any-script digits through the regenerated digit
blocks) reads an ASCII digit string as `Digits.val` does.  So `int(str n) = n` for every `n`, and
`float(text)` of `digits.digits` — `"%0.2f"` in particular — is a fact about `val`, `render` and `allDig`.
-/
namespace AthlibVerif
namespace Codes
open Digits

/-- the ten ASCII digits have their values in the regenerated digit blocks -/
def asciiDigitsOK : Bool := (List.range 10).all (fun d => digitVal (digitChar0 d) == some d && digitChar0 d != '.')

theorem digitChar0_eq (d : Nat) (h : d < 10) : digitChar0 d = Digits.digitChar d := by
  match d, h with
  | 0, _ | 1, _ | 2, _ | 3, _ | 4, _ | 5, _ | 6, _ | 7, _ | 8, _ | 9, _ => rfl

theorem isDig_digitChar0 (d : Nat) (h : d < 10) : isDig (digitChar0 d) = true := by
  rw [digitChar0_eq d h]
  exact isDig_digitChar d

theorem dval_digitChar0 (d : Nat) (h : d < 10) : dval (digitChar0 d) = d := by
  rw [digitChar0_eq d h]
  exact dval_digitChar d h

theorem natStrAux_eq (fuel n : Nat) (acc : Str) : natStrAux fuel n acc = renderAux fuel n acc := by
  induction fuel generalizing n acc with
  | zero => rfl
  | succ f ih =>
    unfold natStrAux renderAux
    by_cases h : n < 10
    · rw [if_pos (by omega), if_pos h, Nat.mod_eq_of_lt h, digitChar0_eq n h]
    · rw [if_neg (by omega), if_neg h, ih, digitChar0_eq _ (Nat.mod_lt _ (by omega))]

theorem natStr_eq_render (n : Nat) : natStr n = render n := natStrAux_eq _ _ _

theorem digitVal_of_isDig (hA : asciiDigitsOK = true) (c : Char) (h : isDig c = true) : digitVal c = some (dval c) := by
  obtain ⟨e, hlt⟩ := eq_digitChar_of_isDig c h
  have := List.all_eq_true.1 hA _ (List.mem_range.2 hlt)
  simp only [Bool.and_eq_true, beq_iff_eq] at this
  rw [e, dval_digitChar _ hlt, ← digitChar0_eq _ hlt, this.1]

theorem pyInt_eq_val (hA : asciiDigitsOK = true) (s : Str) (hne : s ≠ []) (hd : allDig s = true) : pyInt s = .ok (val s) := by
  have fold : ∀ (s : Str) (a : Nat), allDig s = true → s.foldl pyIntStep (some a) = some (valAux a s) := by
    intro s
    induction s with
    | nil => intro a _; rfl
    | cons c cs ih =>
      intro a h
      rw [allDig_cons, Bool.and_eq_true] at h
      simp only [List.foldl_cons, pyIntStep, digitVal_of_isDig hA c h.1]
      exact ih _ h.2
  unfold pyInt
  rw [if_neg (by simpa using hne), fold s 0 hd]
  rfl

theorem pyInt_natStr (h : asciiDigitsOK = true) (n : Nat) : pyInt (natStr n) = .ok n := by
  rw [natStr_eq_render, pyInt_eq_val h _ (render_ne_nil n) (allDig_render n), val_render]

theorem allDig_natStr (n : Nat) : allDig (natStr n) = true := by
  rw [natStr_eq_render]
  exact allDig_render n

theorem natStr_ne_nil (n : Nat) : natStr n ≠ [] := by
  rw [natStr_eq_render]
  exact render_ne_nil n

theorem digitChar0_eq_zero (d : Nat) (hd : d < 10) : digitChar0 d = '0' ↔ d = 0 := by
  constructor
  · intro e
    have := dval_digitChar0 d hd
    rw [e] at this
    exact this.symm
  · rintro rfl
    rfl

theorem natStr_lt10 (n : Nat) (h : n < 10) : natStr n = [digitChar0 n] := by
  unfold natStr
  have h0 : n / 10 = 0 := by omega
  have hm : n % 10 = n := by omega
  simp [natStrAux, h0, hm]

theorem natStr_lt100 (n : Nat) (h1 : 10 ≤ n) (h : n < 100) : natStr n = [digitChar0 (n / 10), digitChar0 (n % 10)] := by
  unfold natStr
  obtain ⟨m, rfl⟩ : ∃ m, n = m + 1 := ⟨n - 1, by omega⟩
  have h0 : ¬ ((m + 1) / 10 = 0) := by omega
  have h2 : (m + 1) / 10 / 10 = 0 := by omega
  have hm : (m + 1) / 10 % 10 = (m + 1) / 10 := by omega
  simp [natStrAux, h0, h2, hm]

theorem natStrAux_head (fuel n : Nat) (acc : Str) (hn : 0 < n) (hf : n < fuel) :
    ∃ d rest, natStrAux fuel n acc = digitChar0 d :: rest ∧ 0 < d ∧ d < 10 := by
  induction fuel generalizing n acc with
  | zero => omega
  | succ f ih =>
    simp only [natStrAux]
    split
    · next h0 => exact ⟨n % 10, acc, rfl, by omega, by omega⟩
    · next h0 => exact ih (n / 10) _ (by omega) (by omega)

theorem natStr_head (n : Nat) (hn : 0 < n) : ∃ c rest, natStr n = c :: rest ∧ c ≠ '0' := by
  obtain ⟨d, rest, e, h0, h10⟩ := natStrAux_head (n + 1) n [] hn (Nat.lt_succ_self n)
  refine ⟨_, rest, e, fun e0 => ?_⟩
  have := (digitChar0_eq_zero d h10).1 e0
  omega

end Codes

namespace Perf
open Codes Digits

theorem floatOf_decimal (hA : asciiDigitsOK = true) (ip fp : Str) (hi : allDig ip = true) (hf : allDig fp = true)
    (hne : ip ≠ [] ∨ fp ≠ []) :
    floatOf (ip ++ '.' :: fp) = some (val ip * 10 ^ fp.length + val fp, 10 ^ fp.length, fp.length) := by
  have ni : '.' ∉ ip := not_mem_of_allDig ip '.' hi (by decide)
  have nf : '.' ∉ fp := not_mem_of_allDig fp '.' hf (by decide)
  have hcnt : ((ip ++ '.' :: fp).filter (· == '.')).length = 1 := by
    rw [← List.count_eq_length_filter, List.count_append, List.count_cons_self, List.count_eq_zero.2 ni,
      List.count_eq_zero.2 nf]
  obtain ⟨htw, hdw⟩ := takeWhile_ne_append ni fp
  have pi : (if ip.isEmpty then Except.ok 0 else pyInt ip) = .ok (val ip) := by
    cases ip with
    | nil => rfl
    | cons c cs => exact pyInt_eq_val hA _ (by simp) hi
  have pf : (if fp.isEmpty then Except.ok 0 else pyInt fp) = .ok (val fp) := by
    cases fp with
    | nil => rfl
    | cons c cs => exact pyInt_eq_val hA _ (by simp) hf
  have hboth : (ip.isEmpty && fp.isEmpty) = false := by
    rcases hne with h | h
    · cases ip with
      | nil => exact (h rfl).elim
      | cons _ _ => rfl
    · cases fp with
      | nil => exact (h rfl).elim
      | cons _ _ => simp
  have he : (ip ++ '.' :: fp).isEmpty = false := by
    cases ip <;> rfl
  unfold floatOf
  simp only [he, hcnt, htw, hdw, List.drop_succ_cons, List.drop_zero, hboth, pi, pf, Bool.false_eq_true, if_false,
    Nat.lt_irrefl, gt_iff_lt]

theorem floatOf_digits (hA : asciiDigitsOK = true) (ip : Str) (hne : ip ≠ []) (hi : allDig ip = true) :
    floatOf ip = some (val ip, 1, 0) := by
  have ni : '.' ∉ ip := not_mem_of_allDig ip '.' hi (by decide)
  have hcnt : (ip.filter (· == '.')).length = 0 := by
    rw [← List.count_eq_length_filter, List.count_eq_zero.2 ni]
  obtain ⟨htw, hdw⟩ := takeWhile_of_all (bne_of_not_mem ni)
  have he : ip.isEmpty = false := by
    cases ip with
    | nil => exact (hne rfl).elim
    | cons _ _ => rfl
  unfold floatOf
  simp only [hcnt, htw, hdw, he, pyInt_eq_val hA ip hne hi, List.drop_nil, List.isEmpty_nil, List.length_nil,
    Bool.false_and, Bool.false_eq_true, if_false, if_true, Nat.pow_zero, Nat.mul_one, Nat.add_zero, gt_iff_lt,
    Nat.not_lt_zero]

theorem twoDigits_eq (c : Nat) : twoDigits c = [digitChar0 (c / 10 % 10), digitChar0 (c % 10)] := rfl

theorem allDig_twoDigits (c : Nat) : allDig (twoDigits c) = true := by
  have h1 := isDig_digitChar0 (c / 10 % 10) (Nat.mod_lt _ (by omega))
  have h2 := isDig_digitChar0 (c % 10) (Nat.mod_lt _ (by omega))
  simp [twoDigits_eq, allDig, h1, h2]

theorem val_twoDigits (c : Nat) : val (twoDigits c) = c % 100 := by
  rw [twoDigits_eq, val_cons, val_singleton, dval_digitChar0 _ (Nat.mod_lt _ (by omega)),
    dval_digitChar0 _ (Nat.mod_lt _ (by omega))]
  simp only [List.length_cons, List.length_nil]
  omega

theorem floatOf_fmt2 (h : asciiDigitsOK = true) (c : Nat) : floatOf (fmt2 c) = some (c, 100, 2) := by
  have e : fmt2 c = natStr (c / 100) ++ '.' :: twoDigits (c % 100) := by simp [fmt2]
  rw [e, natStr_eq_render, floatOf_decimal h _ _ (allDig_render _) (allDig_twoDigits _) (Or.inl (render_ne_nil _)),
    val_render, val_twoDigits]
  have := Nat.div_add_mod c 100
  simp only [twoDigits, List.length_cons, List.length_nil, Option.some.injEq, Prod.mk.injEq, and_true]
  omega

end Perf
end AthlibVerif
