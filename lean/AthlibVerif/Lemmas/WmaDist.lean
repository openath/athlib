import AthlibVerif.Lemmas.Wma
/-!
For C15.  The speed-interpolated open best is a ratio of two linear functions of the bracket
weight (a Möbius map): between the bracket rows' bests, rising with the weight when the bests are in order.
The linear scan is described by the index it stops at: every run row before it is shorter than `d`, the row
itself is not; `rowByDistance` and a successful `bestByDistance` are read off that index.  Rows are addressed
with `getD … default` as in the model (the default row has distance 0), so no index bounds are carried.
-/
namespace AthlibVerif.Wma

theorem pfac_spec {d k0 k1 : Rat} (h01 : k0 < k1) (hd0 : k0 ≤ d) (hd1 : d ≤ k1) :
    0 ≤ (d - k0) / (k1 - k0) ∧ (d - k0) / (k1 - k0) ≤ 1 ∧
      d = (1 - (d - k0) / (k1 - k0)) * k0 + (d - k0) / (k1 - k0) * k1 := by
  have hpos : 0 < k1 - k0 := by linarith
  refine ⟨div_nonneg (by linarith) hpos.le, by rw [div_le_one hpos]; linarith, ?_⟩
  field_simp
  ring

theorem interpBest_eq (dist p k0 bS k1 bL : Rat) :
    interpBest dist p k0 bS k1 bL = dist / ((1 - p) * (k0 * 1000 / bS) + p * (k1 * 1000 / bL)) := by
  unfold interpBest
  ring

/-- a bracket whose lower row has no distance (the row before `"50"`): the best is the upper row's -/
theorem interpBest_lower_zero {d p bS k1 bL : Rat} (hbL : bL ≠ 0) (hd : d = p * k1)
    (hv : p * (k1 * 1000 / bL) ≠ 0) : interpBest (1000 * d) p 0 bS k1 bL = bL := by
  rw [interpBest_eq]
  have : (1 - p) * (0 * 1000 / bS) + p * (k1 * 1000 / bL) = p * (k1 * 1000 / bL) := by ring
  rw [this, hd]
  have hp : p ≠ 0 := fun h => hv (by rw [h]; ring)
  have hk : k1 ≠ 0 := fun h => hv (by rw [h]; ring)
  field_simp

/-- Möbius monotonicity: a ratio of two linear functions of `p` rises with `p` when `k0/v0 ≤ k1/v1`
    (`hkv`, cross-multiplied) -/
theorem ratio_mono {p p' k0 k1 v0 v1 : Rat} (hpp : p ≤ p') (hkv : k0 * v1 ≤ k1 * v0)
    (hv : 0 < (1 - p) * v0 + p * v1) (hv' : 0 < (1 - p') * v0 + p' * v1) :
    ((1 - p) * k0 + p * k1) / ((1 - p) * v0 + p * v1) ≤ ((1 - p') * k0 + p' * k1) / ((1 - p') * v0 + p' * v1) := by
  rw [div_le_div_iff₀ hv hv']
  -- cross-multiplied, the right side exceeds the left by `(p' − p)·(k1·v0 − k0·v1)`, a product of two non-negatives
  linarith [mul_nonneg (sub_nonneg.2 hpp) (sub_nonneg.2 hkv)]

theorem kmQ_nonneg (t : Table) (r : Row) : 0 ≤ t.kmQ r := by
  unfold Table.kmQ; exact div_nonneg (Nat.cast_nonneg _) (Nat.cast_nonneg _)

theorem kmQ_zero (t : Table) (r : Row) (h : r.km = 0) : t.kmQ r = 0 := by
  unfold Table.kmQ; rw [h]; simp

theorem kmQ_lt_iff (t : Table) (r r' : Row) (hs : 0 < t.kmScale) : t.kmQ r < t.kmQ r' ↔ r.km < r'.km := by
  unfold Table.kmQ
  rw [div_lt_div_iff_of_pos_right (by exact_mod_cast hs)]
  exact Nat.cast_lt

theorem bestQ_mono (t : Table) (r r' : Row) (h : r.best ≤ r'.best) : t.bestQ r ≤ t.bestQ r' :=
  div_le_div_of_nonneg_right (Nat.cast_le.2 h) (Nat.cast_nonneg _)

variable (t : Table) (rows : List Row)

theorem runStart_le_length : runStart rows ≤ rows.length := List.findIdx_le_length

theorem runStart_le_scanIdx (d : Rat) : runStart rows ≤ scanIdx t rows d := Nat.le_add_right _ _

theorem scanIdx_le_length (d : Rat) : scanIdx t rows d ≤ rows.length := by
  have := List.findIdx_le_length (p := fun r => decide (d ≤ t.kmQ r)) (xs := rows.drop (runStart rows))
  have := runStart_le_length rows
  rw [List.length_drop] at *
  unfold scanIdx
  omega

theorem getD_drop_runStart (j : Nat) (h : runStart rows + j < rows.length) :
    (rows.drop (runStart rows))[j]'(by rw [List.length_drop]; omega) = rows.getD (runStart rows + j) default := by
  rw [List.getElem_drop, getD_of_lt rows _ default h]

theorem scan_ge (d : Rat) (h : scanIdx t rows d < rows.length) :
    d ≤ t.kmQ (rows.getD (scanIdx t rows d) default) := by
  have := List.findIdx_getElem (p := fun r => decide (d ≤ t.kmQ r)) (xs := rows.drop (runStart rows))
    (w := by rw [List.length_drop]; unfold scanIdx at h; omega)
  rw [getD_drop_runStart rows _ h] at this
  simpa [scanIdx] using this

theorem scan_lt (d : Rat) (m : Nat) (hm0 : runStart rows ≤ m) (hm1 : m < scanIdx t rows d) :
    t.kmQ (rows.getD m default) < d := by
  have hle := scanIdx_le_length t rows d
  have := List.not_of_lt_findIdx (p := fun r => decide (d ≤ t.kmQ r)) (xs := rows.drop (runStart rows))
    (i := m - runStart rows) (by unfold scanIdx at hm1; omega)
  rw [getD_drop_runStart rows _ (by omega), show runStart rows + (m - runStart rows) = m by omega] at this
  simpa using this

/-- the scan index does not decrease with the distance, whatever the order of the rows -/
theorem scanIdx_mono (d d' : Rat) (h : d ≤ d') : scanIdx t rows d ≤ scanIdx t rows d' := by
  by_contra hc
  have hlt : scanIdx t rows d' < scanIdx t rows d := not_le.mp hc
  have hlen := scanIdx_le_length t rows d
  have h1 := scan_ge t rows d' (by omega)
  have h2 := scan_lt t rows d _ (runStart_le_scanIdx t rows d') hlt
  linarith

theorem rowByDistance_cases (dist : Nat) :
    let d : Rat := (dist : Rat) / 1000
    let i := scanIdx t rows d
    let k0 := t.kmQ (rows.getD (i - 1) default)
    let k1 := t.kmQ (rows.getD i default)
    (runStart rows = rows.length ∧ rowByDistance t rows dist = .error .noRunRows) ∨
    (runStart rows < rows.length ∧ i = 0 ∧ rowByDistance t rows dist = .ok (0, 0, 0)) ∨
    (runStart rows < rows.length ∧ 0 < i ∧ i < rows.length ∧
        ((k1 = k0 ∧ rowByDistance t rows dist = .error .zeroDiv) ∨
         (k1 ≠ k0 ∧ rowByDistance t rows dist = .ok (i - 1, i, (d - k0) / (k1 - k0))))) ∨
    (runStart rows < rows.length ∧ 0 < i ∧ i = rows.length ∧
        rowByDistance t rows dist = .ok (rows.length - 1, rows.length - 1, 0)) := by
  intro d i k0 k1
  have hdef : rowByDistance t rows dist =
      (if runStart rows = rows.length then .error .noRunRows else
       if i = 0 then .ok (0, 0, 0)
       else if i < rows.length then (if k1 = k0 then .error .zeroDiv else .ok (i - 1, i, (d - k0) / (k1 - k0)))
       else .ok (rows.length - 1, rows.length - 1, 0)) := rfl
  have := runStart_le_length rows
  have := scanIdx_le_length t rows d
  rw [hdef]
  by_cases hs : runStart rows = rows.length
  · exact Or.inl ⟨hs, if_pos hs⟩
  · rw [if_neg hs]
    by_cases h0 : i = 0
    · exact Or.inr (Or.inl ⟨by omega, h0, if_pos h0⟩)
    · rw [if_neg h0]
      by_cases hlt : i < rows.length
      · rw [if_pos hlt]
        refine Or.inr (Or.inr (Or.inl ⟨by omega, by omega, hlt, ?_⟩))
        by_cases hk : k1 = k0
        · exact Or.inl ⟨hk, if_pos hk⟩
        · exact Or.inr ⟨hk, if_neg hk⟩
      · exact Or.inr (Or.inr (Or.inr ⟨by omega, by omega, by omega, if_neg hlt⟩))

theorem runOK_spec (h : runOK rows = true) :
    runStart rows < rows.length ∧
    (runStart rows = 0 ∨ (rows.getD (runStart rows - 1) default).km = 0) ∧
    ∀ m, runStart rows ≤ m → m < rows.length → 0 < (rows.getD m default).km := by
  unfold runOK at h
  simp only [Bool.and_eq_true, decide_eq_true_eq, Bool.or_eq_true, beq_iff_eq, List.all_eq_true] at h
  obtain ⟨⟨h1, h2⟩, h3⟩ := h
  refine ⟨h1, h2, fun m hm0 hm => ?_⟩
  rw [show m = runStart rows + (m - runStart rows) by omega, ← getD_drop_runStart rows _ (by omega)]
  exact h3 _ (List.getElem_mem _)

/-- An interior bracket read off the scan: adjacent rows, `fx1` the row the scan stops at, `d` between their
    distances (which differ), `p` the place of `d` between them.  The last two conjuncts say what the lower row is:
    a run row strictly shorter than `d`, or the row before the run section, which has no distance. -/
theorem bracket_spec (dist fx fx1 : Nat) (p : Rat) (hR : runOK rows = true)
    (hb : rowByDistance t rows dist = .ok (fx, fx1, p)) (hne : fx ≠ fx1) :
    fx + 1 = fx1 ∧ fx1 = scanIdx t rows ((dist : Rat) / 1000) ∧ fx1 < rows.length ∧
      t.kmQ (rows.getD fx default) ≤ (dist : Rat) / 1000 ∧ (dist : Rat) / 1000 ≤ t.kmQ (rows.getD fx1 default) ∧
      t.kmQ (rows.getD fx default) < t.kmQ (rows.getD fx1 default) ∧
      p = ((dist : Rat) / 1000 - t.kmQ (rows.getD fx default)) /
        (t.kmQ (rows.getD fx1 default) - t.kmQ (rows.getD fx default)) ∧
      (runStart rows < fx1 → t.kmQ (rows.getD fx default) < (dist : Rat) / 1000) ∧
      (runStart rows = fx1 → (rows.getD fx default).km = 0) := by
  obtain ⟨hs, hpre, _⟩ := runOK_spec rows hR
  rcases rowByDistance_cases t rows dist with ⟨_, h⟩ | ⟨_, _, h⟩ | ⟨_, hpos, hlt, h⟩ | ⟨_, _, _, h⟩
  · rw [h] at hb
    cases hb
  · rw [h] at hb
    cases hb
    exact absurd rfl hne
  · rcases h with ⟨_, h⟩ | ⟨hk, h⟩
    · rw [h] at hb
      cases hb
    · rw [h] at hb
      cases hb
      have hge := scan_ge t rows _ hlt
      have hsle := runStart_le_scanIdx t rows ((dist : Rat) / 1000)
      have hpre' : runStart rows = scanIdx t rows ((dist : Rat) / 1000) →
          (rows.getD (scanIdx t rows ((dist : Rat) / 1000) - 1) default).km = 0 := by
        intro e
        rw [← e]
        rcases hpre with h0 | h0
        · omega
        · exact h0
      have hstrict : runStart rows < scanIdx t rows ((dist : Rat) / 1000) →
          t.kmQ (rows.getD (scanIdx t rows ((dist : Rat) / 1000) - 1) default) < (dist : Rat) / 1000 :=
        fun hc => scan_lt t rows _ _ (by omega) (by omega)
      have hlow : t.kmQ (rows.getD (scanIdx t rows ((dist : Rat) / 1000) - 1) default) ≤ (dist : Rat) / 1000 := by
        by_cases hc : runStart rows < scanIdx t rows ((dist : Rat) / 1000)
        · exact (hstrict hc).le
        · rw [kmQ_zero t _ (hpre' (by omega))]
          exact div_nonneg (Nat.cast_nonneg _) (by norm_num)
      exact ⟨by omega, rfl, hlt, hlow, hge, lt_of_le_of_ne (le_trans hlow hge) (Ne.symm hk), rfl, hstrict, hpre'⟩
  · rw [h] at hb
    cases hb
    exact absurd rfl hne

theorem bracket_weight (dist fx fx1 : Nat) (p : Rat) (hR : runOK rows = true)
    (hb : rowByDistance t rows dist = .ok (fx, fx1, p)) (hne : fx ≠ fx1) :
    0 ≤ p ∧ p ≤ 1 ∧
      (dist : Rat) / 1000 = (1 - p) * t.kmQ (rows.getD fx default) + p * t.kmQ (rows.getD fx1 default) := by
  obtain ⟨_, _, _, hlow, hhigh, hk, hp, _⟩ := bracket_spec t rows dist fx fx1 p hR hb hne
  rw [hp]
  exact pfac_spec hk hlow hhigh

theorem bestByDistance_ok (dist fx fx1 : Nat) (p x : Rat) (h : bestByDistance t rows dist = .ok x)
    (hb : rowByDistance t rows dist = .ok (fx, fx1, p)) :
    0 < t.bestQ (rows.getD fx default) ∧ 0 < t.bestQ (rows.getD fx1 default) ∧
      (1 - p) * (t.kmQ (rows.getD fx default) * 1000 / t.bestQ (rows.getD fx default)) +
        p * (t.kmQ (rows.getD fx1 default) * 1000 / t.bestQ (rows.getD fx1 default)) ≠ 0 ∧
      x = interpBest (dist : Rat) p (t.kmQ (rows.getD fx default)) (t.bestQ (rows.getD fx default))
            (t.kmQ (rows.getD fx1 default)) (t.bestQ (rows.getD fx1 default)) := by
  unfold bestByDistance at h
  rw [hb] at h
  simp only at h
  split at h
  · exact absurd h (by simp)
  · rename_i hz
    simp only [not_or] at hz
    split at h
    · exact absurd h (by simp)
    · rename_i hv
      injection h with h
      have hzs := Nat.pos_of_ne_zero hz.2.2
      -- `hv` is the model's test, on the speed as `v_l + (1−p)·(v_s − v_l)`; the statement has it as `(1−p)·v_s + p·v_l`
      exact ⟨bestQ_pos t _ hzs (Nat.pos_of_ne_zero hz.1), bestQ_pos t _ hzs (Nat.pos_of_ne_zero hz.2.1),
        fun hc => hv (by rw [← hc]; ring), h.symm⟩

/-- in the form `interpBest_between` and `interpBest_mono` take: the distance as `(1−p)·k0 + p·k1`, the speed positive -/
theorem best_interior (dist fx fx1 : Nat) (p x : Rat) (hR : runOK rows = true)
    (h : bestByDistance t rows dist = .ok x) (hb : rowByDistance t rows dist = .ok (fx, fx1, p)) (hne : fx ≠ fx1) :
    let k0 := t.kmQ (rows.getD fx default)
    let k1 := t.kmQ (rows.getD fx1 default)
    let b0 := t.bestQ (rows.getD fx default)
    let b1 := t.bestQ (rows.getD fx1 default)
    0 < b0 ∧ 0 < b1 ∧ 0 < (1 - p) * (k0 * 1000 / b0) + p * (k1 * 1000 / b1) ∧
      x = interpBest (1000 * ((1 - p) * k0 + p * k1)) p k0 b0 k1 b1 := by
  intro k0 k1 b0 b1
  obtain ⟨hb0, hb1, hv, hx⟩ := bestByDistance_ok t rows dist fx fx1 p x h hb
  obtain ⟨hp0, hp1, hd⟩ := bracket_weight t rows dist fx fx1 p hR hb hne
  -- the interpolated speed is a sum of two non-negative terms, and not zero
  have hs : 0 ≤ (1 - p) * (k0 * 1000 / b0) :=
    mul_nonneg (sub_nonneg.2 hp1) (div_nonneg (mul_nonneg (kmQ_nonneg t _) (by norm_num)) hb0.le)
  have hl : 0 ≤ p * (k1 * 1000 / b1) :=
    mul_nonneg hp0 (div_nonneg (mul_nonneg (kmQ_nonneg t _) (by norm_num)) hb1.le)
  refine ⟨hb0, hb1, lt_of_le_of_ne (add_nonneg hs hl) (Ne.symm hv), ?_⟩
  rw [hx, ← hd]
  congr 1
  ring

/-- degenerate bracket `(fx, fx, 0)` (before the first / beyond the last row): the time at that row's speed -/
theorem best_same_row (dist fx : Nat) (x : Rat)
    (h : bestByDistance t rows dist = .ok x) (hb : rowByDistance t rows dist = .ok (fx, fx, 0)) :
    0 < t.bestQ (rows.getD fx default) ∧ 0 < t.kmQ (rows.getD fx default) ∧
    x = (dist : Rat) / 1000 * t.bestQ (rows.getD fx default) / t.kmQ (rows.getD fx default) := by
  obtain ⟨hb0, _, hv, hx⟩ := bestByDistance_ok t rows dist fx fx 0 x h hb
  have hk : t.kmQ (rows.getD fx default) ≠ 0 := by
    intro hc; apply hv; rw [hc]; ring
  refine ⟨hb0, lt_of_le_of_ne (kmQ_nonneg t _) (Ne.symm hk), ?_⟩
  rw [hx, interpBest_eq]
  have hb0' := ne_of_gt hb0
  field_simp
  ring

end AthlibVerif.Wma
