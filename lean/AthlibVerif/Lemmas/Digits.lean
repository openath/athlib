import AthlibVerif.Model.Digits
/-! `val` of a digit string under append, take / drop and zero padding; `render n` is a digit string of value `n`, of at most
`k` digits when `n < 10 ^ k`. -/
namespace AthlibVerif.Digits

theorem ite_le {p : Prop} [Decidable p] {a b n : Nat} (ha : a ≤ n) (hb : b ≤ n) : (if p then a else b) ≤ n := by
  split
  · exact ha
  · exact hb

theorem dval_le (c : Char) : dval c ≤ 9 := by
  unfold dval
  repeat apply ite_le (by decide)
  decide

theorem dval_digitChar (d : Nat) (h : d < 10) : dval (digitChar d) = d := by
  match d, h with
  | 0, _ | 1, _ | 2, _ | 3, _ | 4, _ | 5, _ | 6, _ | 7, _ | 8, _ | 9, _ => decide

theorem isDig_digitChar (d : Nat) : isDig (digitChar d) = true := by
  unfold digitChar; split <;> decide

theorem eq_digitChar_of_isDig (c : Char) (h : isDig c = true) : c = digitChar (c.toNat - 48) ∧ c.toNat - 48 < 10 := by
  have hc : Char.ofNat c.toNat = c := Char.ofNat_toNat c
  unfold isDig at h
  simp only [Bool.and_eq_true, decide_eq_true_eq] at h
  obtain ⟨h1, h2⟩ := h
  generalize c.toNat = n at *
  have : n = 48 ∨ n = 49 ∨ n = 50 ∨ n = 51 ∨ n = 52 ∨ n = 53 ∨ n = 54 ∨ n = 55 ∨ n = 56 ∨ n = 57 := by omega
  rcases this with rfl | rfl | rfl | rfl | rfl | rfl | rfl | rfl | rfl | rfl <;> (subst hc; exact ⟨by decide, by omega⟩)

theorem dval_pos (c : Char) (h : isDig c = true) (h0 : c ≠ '0') : 0 < dval c := by
  obtain ⟨e, hlt⟩ := eq_digitChar_of_isDig c h
  rw [e, dval_digitChar _ hlt]
  rcases Nat.eq_zero_or_pos (c.toNat - 48) with hz | hz
  · rw [hz] at e; exact absurd e h0
  · exact hz

theorem valAux_eq (a : Nat) (l : List Char) : valAux a l = a * 10 ^ l.length + valAux 0 l := by
  induction l generalizing a with
  | nil => simp [valAux]
  | cons c cs ih =>
    simp only [valAux, List.length_cons]
    rw [ih (10 * a + dval c), ih (10 * 0 + dval c)]
    grind

@[simp] theorem val_nil : val [] = 0 := rfl

theorem val_cons (c : Char) (cs : List Char) : val (c :: cs) = dval c * 10 ^ cs.length + val cs := by
  simp only [val, valAux]; rw [valAux_eq]; simp

theorem val_append (a b : List Char) : val (a ++ b) = val a * 10 ^ b.length + val b := by
  induction a with
  | nil => simp
  | cons c cs ih =>
    rw [List.cons_append, val_cons, val_cons, ih, List.length_append]
    grind

theorem val_lt (l : List Char) : val l < 10 ^ l.length := by
  induction l with
  | nil => simp
  | cons c cs ih =>
    rw [val_cons, List.length_cons, Nat.pow_succ]
    have := dval_le c
    have h1 : dval c * 10 ^ cs.length ≤ 9 * 10 ^ cs.length := Nat.mul_le_mul_right _ this
    omega

theorem val_singleton (c : Char) : val [c] = dval c := by simp [val_cons]

@[simp] theorem zeros_length (k : Nat) : (zeros k).length = k := by simp [zeros]

theorem val_zeros (k : Nat) : val (zeros k) = 0 := by
  induction k with
  | zero => rfl
  | succ k ih =>
    have : zeros (k + 1) = '0' :: zeros k := by simp [zeros, List.replicate_succ]
    have h0 : dval '0' = 0 := by decide
    rw [this, val_cons, ih, h0]; simp

theorem val_zeros_append (k : Nat) (l : List Char) : val (zeros k ++ l) = val l := by
  rw [val_append, val_zeros]; simp

theorem val_append_zeros (l : List Char) (k : Nat) : val (l ++ zeros k) = val l * 10 ^ k := by
  rw [val_append, val_zeros]; simp

theorem allDig_nil : allDig [] = true := rfl
theorem allDig_cons (c : Char) (cs : List Char) : allDig (c :: cs) = (isDig c && allDig cs) := by
  simp [allDig]
theorem allDig_append (a b : List Char) : allDig (a ++ b) = (allDig a && allDig b) := by
  simp [allDig]
theorem allDig_zeros (k : Nat) : allDig (zeros k) = true := by
  simp only [allDig, zeros, List.all_replicate]; simp; right; decide
theorem allDig_take (l : List Char) (k : Nat) (h : allDig l = true) : allDig (l.take k) = true := by
  simp only [allDig, List.all_eq_true] at *
  exact fun x hx => h x (List.mem_of_mem_take hx)
theorem allDig_drop (l : List Char) (k : Nat) (h : allDig l = true) : allDig (l.drop k) = true := by
  simp only [allDig, List.all_eq_true] at *
  exact fun x hx => h x (List.mem_of_mem_drop hx)
theorem not_mem_of_allDig (l : List Char) (c : Char) (h : allDig l = true) (hc : isDig c = false) : c ∉ l := by
  intro hm
  simp only [allDig, List.all_eq_true] at h
  have := h c hm; simp [hc] at this

theorem val_take_drop (l : List Char) (k : Nat) :
    val l = val (l.take k) * 10 ^ (l.length - k) + val (l.drop k) := by
  have h := val_append (l.take k) (l.drop k)
  rw [List.take_append_drop, List.length_drop] at h
  exact h

theorem renderAux_spec (fuel n : Nat) (acc : List Char) (h : n < fuel) :
    val (renderAux fuel n acc) = n * 10 ^ acc.length + val acc ∧
    (allDig acc = true → allDig (renderAux fuel n acc) = true) ∧
    acc.length < (renderAux fuel n acc).length := by
  induction fuel generalizing n acc with
  | zero => omega
  | succ fuel ih =>
    unfold renderAux
    split
    · rename_i hn
      refine ⟨?_, ?_, by simp⟩
      · rw [val_cons, dval_digitChar n hn]
      · intro ha; rw [allDig_cons, isDig_digitChar, ha]; rfl
    · rename_i hn
      have hlt : n / 10 < fuel := by omega
      obtain ⟨h1, h2, h3⟩ := ih (n / 10) (digitChar (n % 10) :: acc) hlt
      refine ⟨?_, ?_, ?_⟩
      · rw [h1, val_cons, dval_digitChar _ (Nat.mod_lt _ (by omega)), List.length_cons, Nat.pow_succ]
        have := Nat.div_add_mod n 10
        grind
      · intro ha; apply h2; rw [allDig_cons, isDig_digitChar, ha]; rfl
      · simp only [List.length_cons] at h3; omega

theorem val_render (n : Nat) : val (render n) = n := by
  have := (renderAux_spec (n + 1) n [] (by omega)).1
  simpa [render] using this

theorem allDig_render (n : Nat) : allDig (render n) = true :=
  (renderAux_spec (n + 1) n [] (by omega)).2.1 rfl

theorem render_length_pos (n : Nat) : 0 < (render n).length := by
  have := (renderAux_spec (n + 1) n [] (by omega)).2.2
  simpa [render] using this

theorem render_ne_nil (n : Nat) : render n ≠ [] := by
  intro h; have := render_length_pos n; rw [h] at this; simp at this

theorem renderAux_length (fuel n k : Nat) (acc : List Char) (h : n < fuel) (hk : 0 < k) (hn : n < 10 ^ k) :
    (renderAux fuel n acc).length ≤ k + acc.length := by
  induction fuel generalizing n k acc with
  | zero => omega
  | succ fuel ih =>
    unfold renderAux
    split
    · simp; omega
    · rename_i h10
      have hk2 : 2 ≤ k := by
        rcases Nat.lt_or_ge k 2 with h1 | h1
        · have : k = 1 := by omega
          subst this; simp at hn; omega
        · exact h1
      have hdiv : n / 10 < 10 ^ (k - 1) := by
        apply Nat.div_lt_of_lt_mul
        have : 10 ^ k = 10 * 10 ^ (k - 1) := by
          rw [← Nat.pow_succ']; congr 1; omega
        omega
      have := ih (n / 10) (k - 1) (digitChar (n % 10) :: acc) (by omega) (by omega) hdiv
      simp only [List.length_cons] at this
      omega

theorem render_length_le (n k : Nat) (hk : 0 < k) (hn : n < 10 ^ k) : (render n).length ≤ k := by
  have := renderAux_length (n + 1) n k [] (by omega) hk hn
  simpa [render] using this

theorem val_stripZeros (l : List Char) : val (stripZeros l) = val l := by
  induction l with
  | nil => rfl
  | cons c cs ih =>
    unfold stripZeros
    split
    · rename_i h; subst h; rw [ih, val_cons]
      have : dval '0' = 0 := by decide
      rw [this]; simp
    · rfl

theorem stripZeros_eq_nil_iff (l : List Char) (h : allDig l = true) : stripZeros l = [] ↔ val l = 0 := by
  induction l with
  | nil => simp [stripZeros]
  | cons c cs ih =>
    rw [allDig_cons, Bool.and_eq_true] at h
    unfold stripZeros
    split
    · rename_i hc; subst hc
      rw [ih h.2, val_cons]
      have : dval '0' = 0 := by decide
      rw [this]; simp
    · rename_i hc
      simp only [reduceCtorEq, false_iff]
      rw [val_cons]
      have hpos : 0 < dval c := dval_pos c h.1 hc
      have : 0 < 10 ^ cs.length := Nat.pow_pos (by omega)
      have := Nat.mul_pos hpos this
      omega

end AthlibVerif.Digits
