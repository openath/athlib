import AthlibVerif.Model.WmaChecks
import AthlibVerif.Lemmas.Eval
/-! `spellingOK` with each row name turned into characters once (`forceChars`, see `Lemmas/Eval.lean`) -/
namespace AthlibVerif.Wma

/-- what `namesClassified` and `caseOK` ask of one row name -/
def nameOK (cs : List Char) : Bool :=
  (kindOfL cs).isSome && (cs.map Char.toUpper == cs &&
  ((cs.map Char.toLower).map Char.toUpper == cs.map Char.toUpper &&
    match kindOfL (cs.map Char.toLower), kindOfL cs with
    | some k, some k' => k.timed == k'.timed
    | none, _ => true
    | _, none => false))

theorem spellingOK_eq (rows : List Row) :
    spellingOK rows = (namesDistinct rows && rows.all fun r => forceChars r.event.toList nameOK) := by
  have all_and : ∀ (p q : Row → Bool), (rows.all p && rows.all q) = rows.all fun r => p r && q r := by
    intro p q
    rw [Bool.eq_iff_iff]
    simp only [Bool.and_eq_true, List.all_eq_true]
    exact ⟨fun h r hr => ⟨h.1 r hr, h.2 r hr⟩, fun h => ⟨fun r hr => (h r hr).1, fun r hr => (h r hr).2⟩⟩
  simp only [spellingOK, namesClassified, caseOK, forceChars_eq, Bool.and_assoc, all_and]
  rfl

end AthlibVerif.Wma
