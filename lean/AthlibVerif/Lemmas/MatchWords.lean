import AthlibVerif.Lemmas.MatchCodes
import AthlibVerif.Lemmas.Eval
/-!
# From symbol words back to characters

The regular-expression theorems speak about words over the generated symbol alphabet; the transcription of
`discipline_sort_key` compares characters (`"MILE"`, the entries of `FIELD_SORT_ORDER`).  A symbol that stands
for exactly one code point (`singletonSym`, decided on the regenerated alphabet) lets a symbol-level fact be read
back as a fact about the character.  With that, the metres group of a track code has one of the three shapes the sort key
reads (`track_metres_shape`), and the look-up in `FIELD_SORT_ORDER` succeeds on every word of a language whose words all
start with a spelling of an entry (`fieldOrder_of_prefixK`).
-/
namespace AthlibVerif
namespace Codes
open RE GRE

theorem eq_of_symOf_eq (c : Char) (h : singletonSym c = true) (x : Char) (hx : symOf x = symOf c) : x = c := by
  simp only [singletonSym, Bool.and_eq_true, List.all_eq_true, Bool.or_eq_true, bne_iff_ne, ne_eq, beq_iff_eq] at h
  obtain ⟨e, hmem, h1, h2, he⟩ := symOf_spec x
  rcases h.2 e hmem with h' | h'
  · exact (h' (he.symm.trans hx)).elim
  · exact Char.toNat_inj.1 (by omega)

theorem testBit_two_pow_symOf (c : Char) (h : singletonSym c = true) (x : Char) :
    (2 ^ symOf c).testBit (symOf x) = true ↔ x = c := by
  rw [Nat.testBit_two_pow, decide_eq_true_eq]
  exact ⟨fun e => eq_of_symOf_eq c h x e.symm, fun e => by rw [e]⟩

theorem lang_wordRE (cs : List Char) (hs : ∀ c ∈ cs, singletonSym c = true) :
    ∀ t : Str, RE.lang (wordRE cs) (symsOf t) → t = cs := by
  induction cs with
  | nil => intro t h; exact (matches_eps t).1 h
  | cons c cs ih =>
    intro t h
    obtain ⟨a, t', rfl, hx, hv⟩ := (matches_cls_cat _ _ t).1 h
    rw [(testBit_two_pow_symOf c (hs c List.mem_cons_self) a).1 hx,
      ih (fun c' hc' => hs c' (List.mem_cons_of_mem _ hc')) t' hv]

theorem capitals_upper : ∀ c ∈ capitals, upperC c = c ∧ upperC (lowerC c) = c := by decide

theorem lang_ciWord (w : List Char)
    (hw : ∀ c ∈ w, c ∈ capitals ∧ singletonSym c = true ∧ singletonSym (lowerC c) = true) :
    ∀ t : Str, RE.lang (ciWord w) (symsOf t) → upper t = w := by
  induction w with
  | nil => intro t h; rw [(matches_eps t).1 h]; rfl
  | cons c cs ih =>
    intro t h
    obtain ⟨a, t', rfl, hx, hv⟩ := (matches_cls_cat _ _ t).1 h
    obtain ⟨hcap, hs1, hs2⟩ := hw c List.mem_cons_self
    rw [Nat.testBit_or, Bool.or_eq_true, testBit_two_pow_symOf c hs1, testBit_two_pow_symOf _ hs2] at hx
    have hup : upperC a = c := by
      rcases hx with rfl | rfl
      · exact (capitals_upper _ hcap).1
      · exact (capitals_upper c hcap).2
    have := ih (fun c' hc' => hw c' (List.mem_cons_of_mem _ hc')) t' hv
    simp only [upper, List.map_cons] at this ⊢
    rw [hup, this]

theorem track_metres_shape (h : trackMetresOK = true) (d : Str) (tc : Caps) (g1 : Str)
    (hm : pyMatch "PAT_TRACK" d = some tc) (hg : group d tc 1 = some g1) :
    (g1 ≠ [] ∧ ∀ c ∈ g1, isDigitU c = true) ∨ g1 = mileWord ∨ ∃ c, isDigitU c = true ∧ g1 = c :: mileWord := by
  simp only [trackMetresOK, Bool.and_eq_true] at h
  have hsing := List.all_eq_true.1 h.1
  have hsub := group_matches "PAT_TRACK" 1 metresShape h.2 hm hg
  rcases hsub with hd | hsub
  · exact Or.inl ((matches_plusCls _ g1).1 hd)
  · obtain ⟨t1, t2, rfl, hu, hv⟩ := (matches_cat _ _ g1).1 hsub
    rw [lang_wordRE mileWord hsing t2 hv]
    rcases hu with hu | hu
    · rw [(matches_eps t1).1 hu]; exact Or.inr (Or.inl rfl)
    · obtain ⟨a, rfl, ha⟩ := (matches_cls _ t1).1 hu
      exact Or.inr (Or.inr ⟨a, ha, rfl⟩)

theorem mem_symChars (a : Char) : a ∈ symChars (symOf a) := by
  obtain ⟨e, hmem, h1, h2, he⟩ := symOf_spec a
  unfold symChars
  simp only [List.mem_flatMap, List.mem_filter, List.mem_map, List.mem_range]
  refine ⟨e, ⟨hmem, beq_iff_eq.2 he.symm⟩, a.toNat - e.1, by omega, ?_⟩
  rw [show e.1 + (a.toNat - e.1) = a.toNat by omega]; exact Char.ofNat_toNat a

theorem testBit_maskOf (l : List Nat) (x : Nat) : (maskOf l).testBit x = l.contains x := by
  unfold maskOf
  rw [testBit_foldl_or (fun k => 2 ^ k)]
  simp [Nat.testBit_two_pow, List.any_eq, eq_comm]

theorem expand_length (w : List Char) : ∀ t ∈ expand w, t.length = w.length := by
  induction w with
  | nil => intro t ht; simp [expand] at ht; subst ht; rfl
  | cons c cs ih =>
    intro t ht
    simp only [expand, List.mem_flatMap, List.mem_map] at ht
    obtain ⟨a, _, t', ht', rfl⟩ := ht
    simp [ih t' ht']

theorem lang_ciWord' (w : List Char) (hw : ∀ c ∈ w, ∀ k ∈ posSyms c, k ≠ 0) :
    ∀ t : Str, RE.lang (ciWord' w) (symsOf t) → t ∈ expand w := by
  induction w with
  | nil => intro t h; rw [(matches_eps t).1 h]; exact List.mem_singleton.2 rfl
  | cons c cs ih =>
    intro t h
    obtain ⟨a, t', rfl, hx, hv⟩ := (matches_cls_cat _ _ t).1 h
    rw [testBit_maskOf] at hx
    -- `hw` only travels to `ih`; it stays, since the statement is a named result and the obligation decides `hw` (`fieldSpellingsOK`)
    have := ih (fun c' hc' => hw c' (List.mem_cons_of_mem _ hc')) t' hv
    simp only [expand, posChars, List.mem_flatMap, List.mem_map]
    exact ⟨a, ⟨symOf a, by simpa using hx, mem_symChars a⟩, t', this, rfl⟩

/-- stated for any union taken over a list, to serve both `prefixUnion` and `namesRE` -/
theorem lang_alts {α : Type} (f : α → RE) (r : List α → RE) (h0 : r [] = .empty)
    (hc : ∀ w ws, r (w :: ws) = .alt (f w) (r ws)) (ws : List α) (x : List Nat) (h : RE.lang (r ws) x) :
    ∃ w ∈ ws, RE.lang (f w) x := by
  induction ws with
  | nil => rw [h0] at h; exact h.elim
  | cons w ws ih =>
    rw [hc] at h
    rcases h with h | h
    · exact ⟨w, List.mem_cons_self, h⟩
    · obtain ⟨w', hw', hl⟩ := ih h; exact ⟨w', List.mem_cons_of_mem _ hw', hl⟩

/-- the three-letter look-up tries no entry the four-letter look-up does not try -/
theorem fieldSpellingsOK_short (h : fieldSpellingsOK true = true) : fieldSpellingsOK false = true := by
  simp only [fieldSpellingsOK, forceWords_eq, List.all_eq_true] at h ⊢
  intro w hw
  apply h w
  simp only [fieldWords, List.mem_filter, Bool.and_eq_true, decide_eq_true_eq] at hw ⊢
  have h3 := hw.2.2
  simp only [Bool.false_eq_true, if_false] at h3
  exact ⟨hw.1, hw.2.1, by simp only [if_true]; omega⟩

theorem fieldOrder_of_prefixUnion (long : Bool) (hwords : fieldSpellingsOK long = true) (d : Str)
    (hl : Matches (prefixUnion (fieldWords long)) d) : ∃ n, fieldOrder long d = .ok n := by
  simp only [fieldSpellingsOK, forceWords_eq, Bool.and_eq_true, List.all_eq_true] at hwords
  obtain ⟨w, hw, hcat⟩ :=
    lang_alts (f := fun w => .cat (ciWord' w) anyStar) (r := prefixUnion) rfl (fun _ _ => rfl) (fieldWords long) _ hl
  obtain ⟨d1, d2, rfl, hu, _⟩ := (matches_cat _ _ d).1 hcat
  obtain ⟨hsyms, hexp⟩ := hwords w hw
  have hmem : d1 ∈ expand w := by
    apply lang_ciWord' w _ d1 hu
    intro c hc k hk
    simpa using hsyms c hc k hk
  have hfound := hexp d1 hmem
  have hlen := expand_length w d1 hmem
  have hwf := hw
  simp only [fieldWords, List.mem_filter, Bool.and_eq_true, decide_eq_true_eq] at hwf
  obtain ⟨_, hlen2, hlen4⟩ := hwf
  have htake : (upper (d1 ++ d2)).take d1.length = upper d1 := by
    simp only [upper, List.map_append]
    rw [List.take_left']; simp
  rw [← htake] at hfound
  rw [← hlen] at hlen2 hlen4
  unfold fieldOrder
  simp only
  -- the look-up fails only when every prefix it tries misses; the prefix as long as `d1` is tried and hits
  split
  · exact ⟨_, rfl⟩
  · next h4 =>
    split
    · exact ⟨_, rfl⟩
    · next h3 =>
      split
      · exact ⟨_, rfl⟩
      · next h2 =>
        have hk : d1.length = 2 ∨ d1.length = 3 ∨ (d1.length = 4 ∧ long = true) := by
          cases long
          · simp at hlen4 ⊢; omega
          · simp at hlen4 ⊢; omega
        rcases hk with hk | hk | ⟨hk, hlong⟩
        · rw [hk, h2] at hfound; cases hfound
        · rw [hk, h3] at hfound; cases hfound
        · rw [hlong, if_pos rfl] at h4
          rw [hk, h4] at hfound; cases hfound

theorem fieldOrder_of_prefixK (long : Bool) (p : RE) (hwords : fieldSpellingsOK long = true)
    (hp : fieldPrefixK long p = true) (d : Str) (hd : Matches p d) : ∃ n, fieldOrder long d = .ok n := by
  rw [fieldPrefixK, forceWords_eq] at hp
  exact fieldOrder_of_prefixUnion long hwords d (Matches.subsetK hp hd)

theorem fieldOrder_total (long : Bool) (p : RE) (h : fieldPrefixOK long p = true) (d : Str) (hd : Matches p d) :
    ∃ n, fieldOrder long d = .ok n := by
  obtain ⟨hwords, hsub⟩ := Bool.and_eq_true_iff.1 h
  refine fieldOrder_of_prefixUnion long ?_ d (Matches.subset hsub hd)
  rw [fieldSpellingsOK, forceWords_eq]
  exact hwords

end Codes
end AthlibVerif
