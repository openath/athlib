/-!
# Shared-place numbering over a stable sort — the algorithm of `_rankj`, abstractly

`insertK` / `sortK` is the stable insertion sort used by `HJ.sortRanked`, `placesK` the place
assignment of `HJ.assignPlaces`, both on bare keys.  Theorem `placesK_sorted`: after the sort the
place of every entry is `1 +` the number of entries with a strictly smaller key — so equal keys share a
place and places form a standard competition ranking (1, 2, 2, 4 …), whatever the previous order was.
-/
namespace AthlibVerif.Ranking

variable {α : Type} [DecidableEq α]

structure StrictTotal (lt : α → α → Bool) : Prop where
  irrefl : ∀ a, lt a a = false
  trans : ∀ a b c, lt a b = true → lt b c = true → lt a c = true
  tri : ∀ a b, lt a b = true ∨ a = b ∨ lt b a = true

def insertK (lt : α → α → Bool) (x : α) : List α → List α
  | [] => [x]
  | a :: rest => if lt x a then x :: a :: rest else a :: insertK lt x rest

def sortK (lt : α → α → Bool) (l : List α) : List α := l.foldl (fun acc x => insertK lt x acc) []

def nextPlace (prev : Option (α × Nat)) (k : α) (i : Nat) : Nat :=
  match prev with
  | none => 1
  | some (pk, pp) => if k = pk then pp else i + 1

def placesK : List α → Nat → Option (α × Nat) → List Nat
  | [], _, _ => []
  | k :: rest, i, prev => nextPlace prev k i :: placesK rest (i + 1) (some (k, nextPlace prev k i))

def SortedK (lt : α → α → Bool) : List α → Prop
  | [] => True
  | a :: rest => (∀ b ∈ rest, lt b a = false) ∧ SortedK lt rest

def countLt (lt : α → α → Bool) (l : List α) (k : α) : Nat := (l.filter (fun x => lt x k)).length

theorem countLt_eq_zero_iff (lt : α → α → Bool) (l : List α) (k : α) :
    countLt lt l k = 0 ↔ ∀ x ∈ l, lt x k = false := by
  unfold countLt
  rw [List.length_eq_zero_iff, List.filter_eq_nil_iff]
  simp

theorem countLt_lt (lt : α → α → Bool) (st : StrictTotal lt) (l : List α) (a b : α) (hab : lt a b = true) (ha : a ∈ l) :
    countLt lt l a < countLt lt l b := by
  unfold countLt
  -- whatever is below `a` is below `b`, and `a` itself is below `b` and not below `a`
  have hsub : (l.filter (fun x => lt x a)) = (l.filter (fun x => lt x b)).filter (fun x => lt x a) := by
    rw [List.filter_filter]
    refine List.filter_congr (fun x _ => ?_)
    cases hxa : lt x a with
    | false => simp
    | true => simp [st.trans _ _ _ hxa hab]
  rw [hsub]
  exact List.length_filter_lt_length_iff_exists.2 ⟨a, List.mem_filter.2 ⟨ha, hab⟩, by simp [st.irrefl]⟩

theorem countLt_head (lt : α → α → Bool) (st : StrictTotal lt) (k : α) (rest : List α) (hs : SortedK lt (k :: rest)) :
    countLt lt (k :: rest) k = 0 := by
  rw [countLt_eq_zero_iff]
  intro x hx
  rcases List.mem_cons.1 hx with rfl | hx
  · exact st.irrefl _
  · exact hs.1 x hx

theorem insertK_mem (lt : α → α → Bool) (x : α) (l : List α) (y : α) : y ∈ insertK lt x l ↔ y = x ∨ y ∈ l := by
  induction l with
  | nil => simp [insertK]
  | cons a rest ih =>
    simp only [insertK]
    split
    · simp
    · simp only [List.mem_cons, ih]
      constructor
      · rintro (h | h | h) <;> simp [h]
      · rintro (h | h | h) <;> simp [h]

theorem insertK_sorted (lt : α → α → Bool) (st : StrictTotal lt) (x : α) (l : List α) (h : SortedK lt l) :
    SortedK lt (insertK lt x l) := by
  induction l with
  | nil => simp [insertK, SortedK]
  | cons a rest ih =>
    simp only [insertK]
    split
    · next hxa =>
      refine ⟨?_, h⟩
      intro b hb
      rcases List.mem_cons.1 hb with rfl | hb
      · -- `b` is the head: lt b x = false since lt x b
        cases hax : lt b x with
        | false => rfl
        | true => have := st.trans _ _ _ hxa hax; rw [st.irrefl] at this; cases this
      · cases hbx : lt b x with
        | false => rfl
        | true => have := st.trans _ _ _ hbx hxa; rw [h.1 b hb] at this; cases this
    · next hxa =>
      refine ⟨?_, ih h.2⟩
      intro b hb
      rcases (insertK_mem lt x rest b).1 hb with rfl | hb
      · simpa using hxa
      · exact h.1 b hb

theorem sortK_sorted (lt : α → α → Bool) (st : StrictTotal lt) (l : List α) : SortedK lt (sortK lt l) := by
  unfold sortK
  suffices ∀ acc, SortedK lt acc → SortedK lt (l.foldl (fun acc x => insertK lt x acc) acc) from this [] trivial
  induction l with
  | nil => intro acc h; exact h
  | cons x rest ih => intro acc h; exact ih _ (insertK_sorted lt st x acc h)

theorem sortK_mem (lt : α → α → Bool) (l : List α) (y : α) : y ∈ sortK lt l ↔ y ∈ l := by
  unfold sortK
  suffices ∀ acc, y ∈ l.foldl (fun acc x => insertK lt x acc) acc ↔ y ∈ acc ∨ y ∈ l by simpa using this []
  induction l with
  | nil => intro acc; simp
  | cons x rest ih =>
    intro acc
    rw [List.foldl_cons, ih, insertK_mem]
    simp only [List.mem_cons]
    constructor
    · rintro ((h | h) | h) <;> simp [h]
    · rintro (h | h | h) <;> simp [h]

/-- The numbering loop on a sorted list, `pk` (with place `pp`) being the key numbered last and `i` entries numbered so far:
    the entries equal to `pk` share `pp`, and each other one comes after `i` entries and those of `s` below it. -/
theorem placesK_after (lt : α → α → Bool) (st : StrictTotal lt) (s : List α) : ∀ (i : Nat) (pk : α) (pp : Nat),
    SortedK lt (pk :: s) →
    placesK s i (some (pk, pp)) = s.map (fun k => if k = pk then pp else i + 1 + countLt lt s k) := by
  induction s with
  | nil => intro _ _ _ _; rfl
  | cons k rest ih =>
    intro i pk pp hs
    have h0 : countLt lt (k :: rest) k = 0 := countLt_head lt st k rest hs.2
    rw [placesK, ih _ _ _ hs.2, List.map_cons, nextPlace, h0]
    refine congrArg _ (List.map_congr_left (fun k' hk' => ?_))
    by_cases e : k' = k
    · rw [if_pos e, e, h0]
    · -- `k'` comes after `k` and differs from it: `k` is below it, and `pk`, not above `k`, is not `k'`
      have hlt : lt k k' = true := by
        rcases st.tri k k' with h | h | h
        · exact h
        · exact absurd h.symm e
        · rw [hs.2.1 k' hk'] at h; cases h
      have hne : k' ≠ pk := fun e' => by
        rw [e', hs.1 k (by simp)] at hlt; cases hlt
      rw [if_neg e, if_neg hne]
      simp only [countLt, List.filter_cons, hlt, if_true, List.length_cons]
      omega

theorem placesK_sorted (lt : α → α → Bool) (st : StrictTotal lt) (l : List α) :
    placesK (sortK lt l) 0 none = (sortK lt l).map (fun k => 1 + countLt lt (sortK lt l) k) := by
  have hs := sortK_sorted lt st l
  generalize sortK lt l = s at hs
  cases s with
  | nil => rfl
  | cons k rest =>
    -- the first entry is numbered as if an equal one with place 1 had come before it
    have e : placesK (k :: rest) 0 none = placesK (k :: rest) 0 (some (k, 1)) := by simp [placesK, nextPlace]
    have hs' : SortedK lt (k :: k :: rest) := by
      refine ⟨fun b hb => ?_, hs⟩
      rcases List.mem_cons.1 hb with rfl | hb
      · exact st.irrefl _
      · exact hs.1 b hb
    rw [e, placesK_after lt st _ 0 k 1 hs']
    refine List.map_congr_left (fun k' _ => ?_)
    split
    · next e => rw [e, countLt_head lt st k rest hs]
    · omega
end AthlibVerif.Ranking
