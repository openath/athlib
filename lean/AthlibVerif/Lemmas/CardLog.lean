import AthlibVerif.Lemmas.Consec
/-!
# The cards are the log, athlete by athlete

In every reachable competition the marks on an athlete's card, read left to right across the heights, are exactly
that athlete's accepted trials in the order of the action log.
-/
namespace AthlibVerif.HJ

def marksOf (b : Nat) (log : List Op) : List Trial :=
  log.filterMap (fun op => match op with
    | .trial b' t => if b' == b then some t else none
    | _ => none)

theorem marksOf_append (b : Nat) (l l' : List Op) : marksOf b (l ++ l') = marksOf b l ++ marksOf b l' := by
  unfold marksOf; rw [List.filterMap_append]

def CardLog (c : Comp) : Prop := ∀ j ∈ c.jumpers, j.card.flatten = marksOf j.bib c.log

def LogBibs (c : Comp) : Prop := ∀ b t, Op.trial b t ∈ c.log → b ∈ c.jumpers.map (·.bib)

theorem marksOf_nil_of_absent (b : Nat) (log : List Op) (h : ∀ t, Op.trial b t ∉ log) : marksOf b log = [] := by
  unfold marksOf
  apply List.filterMap_eq_nil_iff.2
  intro op hop
  cases op with
  | add _ => rfl
  | bar _ => rfl
  | trial b' t =>
    simp only
    by_cases e : b' = b
    · subst e; exact absurd hop (h t)
    · have : (b' == b) = false := by simpa using e
      simp [this]

theorem Accepts.bibs {c c' : Comp} {op : Op} (hw : WF c) (ha : Accepts c op c') :
    c'.jumpers.map (·.bib) = c.jumpers.map (·.bib) ++ (match op with | .add b => [b] | _ => []) := by
  cases ha with
  | add b => simp [addResult]
  | bar x =>
    rw [barResult_jumpers, List.map_map, List.append_nil]
    rfl
  | trial b t j hf =>
    obtain ⟨⟨f, e, hr⟩, _⟩ := trialResult_records c hw b t j hf _ (fun k => actCore_bib k _ _ t)
    rw [e, List.map_map, List.append_nil]
    refine List.map_congr_left (fun k _ => ?_)
    rw [Function.comp_apply, (hr _).bib]
    split <;> simp [actCore_bib]

theorem LogBibs.accepts {c c' : Comp} {op : Op} (hw : WF c) (h : LogBibs c) (ha : Accepts c op c') : LogBibs c' := by
  intro b t hm
  rw [ha.log] at hm
  rw [ha.bibs hw]
  rcases List.mem_append.1 hm with hm | hm
  · exact List.mem_append_left _ (h b t hm)
  · obtain rfl := List.mem_singleton.1 hm
    cases ha with
    | trial b t j hf => exact List.mem_append_left _ (List.mem_map.2 ⟨j, find_some_mem c b j hf⟩)

theorem CardLog.accepts {c c' : Comp} {op : Op} (hw : WF c) (hl : LogBibs c) (h : CardLog c)
    (ha : Accepts c op c') : CardLog c' :=
  ha.forall_records_log (P := fun _ lg j => j.card.flatten = marksOf j.bib lg) hw
    (new := fun b p hn => by
      -- a new athlete: nothing on the card, and no trial of this bib in the log so far
      rw [marksOf_append, show marksOf b [Op.add b] = [] from rfl, List.append_nil]
      exact (marksOf_nil_of_absent b c.log (fun t ht => find_none_not_mem c b hn (hl b t ht))).symm)
    (add := fun b _ k _ hk => by
      rw [marksOf_append, show marksOf k.bib [Op.add b] = [] from rfl, List.append_nil]
      exact hk)
    (bar := fun x k _ hk => by
      rw [marksOf_append, show marksOf k.bib [Op.bar x] = [] from rfl, List.append_nil]
      exact hk)
    (act := fun t k hm hh _ _ _ hk => by
      -- the athlete who jumped
      rw [actCore_bib, actCore_card, flatten_appendLast _ t (padCard_ne_nil _ (List.length_pos_iff.2 hh)), flatten_padCard, hk,
        marksOf_append]
      simp [marksOf])
    (other := fun b t k _ hne hk => by
      have : marksOf k.bib [Op.trial b t] = [] := by simp [marksOf, Ne.symm hne]
      rw [marksOf_append, this, List.append_nil]
      exact hk)
    (rerank := fun lg k k' hr hk => by
      -- `_rank` touches neither the card nor the bib
      cases hr with
      | place => exact hk
      | back => exact hk) h

end AthlibVerif.HJ
