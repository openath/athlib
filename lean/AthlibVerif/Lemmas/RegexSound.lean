import AthlibVerif.Model.Regex
import AthlibVerif.Checks.Regex
/-!
# Denotational semantics of `RE`, correctness of derivatives, soundness of the emptiness checker
Core Lean only.  `explore` and the cheaper exploration behind `emptyK` are one loop (`closure`, `Checks/Regex.lean`) over
different successor functions, so the loop invariant (`closure_closed`) and the emptiness argument (`empty_of_closed`) are
proved once, for any successor function; `isEmptyLang_sound` here and `emptyK_sound` in `Lemmas/RegexEval.lean` are the two
instances.
-/
namespace AthlibVerif
namespace RE

inductive StarL (L : List Nat → Prop) : List Nat → Prop
  | nil : StarL L []
  | cons (u v : List Nat) : u ≠ [] → L u → StarL L v → StarL L (u ++ v)

def lang : RE → List Nat → Prop
  | empty => fun _ => False
  | eps => fun w => w = []
  | cls m => fun w => ∃ x, w = [x] ∧ m.testBit x = true
  | cat a b => fun w => ∃ u v, w = u ++ v ∧ lang a u ∧ lang b v
  | alt a b => fun w => lang a w ∨ lang b w
  | star a => StarL (lang a)
  | and a b => fun w => lang a w ∧ lang b w
  | not a => fun w => ¬ lang a w

theorem nullable_iff (r : RE) : r.nullable = true ↔ lang r [] := by
  induction r with
  | empty => simp [nullable, lang]
  | eps => simp [nullable, lang]
  | cls m => simp [nullable, lang]
  | cat a b iha ihb =>
    simp only [nullable, lang, Bool.and_eq_true, iha, ihb]
    constructor
    · rintro ⟨h1, h2⟩; exact ⟨[], [], rfl, h1, h2⟩
    · rintro ⟨u, v, h, h1, h2⟩
      have : u = [] ∧ v = [] := by simpa using h.symm
      rw [this.1] at h1; rw [this.2] at h2; exact ⟨h1, h2⟩
  | alt a b iha ihb => simp [nullable, lang, iha, ihb]
  | star a _ => simp [nullable, lang]; exact StarL.nil
  | and a b iha ihb => simp [nullable, lang, iha, ihb]
  | not a iha => simp [nullable, lang, ← iha]

theorem lang_mkCat (a b : RE) (w) : lang (mkCat a b) w ↔ lang (cat a b) w := by
  unfold mkCat
  split
  · next h => subst h; simp [lang]
  split
  · next h => subst h; simp [lang]
  split
  · next h =>
    subst h; simp only [lang]
    constructor
    · intro hb; exact ⟨[], w, rfl, rfl, hb⟩
    · rintro ⟨u, v, rfl, rfl, hv⟩; simpa using hv
  split
  · next h =>
    subst h; simp only [lang]
    constructor
    · intro ha; exact ⟨w, [], by simp, ha, rfl⟩
    · rintro ⟨u, v, rfl, hu, rfl⟩; simpa using hu
  · rfl
theorem lang_mkAlt (a b : RE) (w) : lang (mkAlt a b) w ↔ lang a w ∨ lang b w := by
  unfold mkAlt
  split
  · next h => subst h; simp [lang]
  split
  · next h => subst h; simp [lang]
  · rfl
theorem lang_mkAnd (a b : RE) (w) : lang (mkAnd a b) w ↔ lang a w ∧ lang b w := by
  unfold mkAnd
  split
  · next h => subst h; simp [lang]
  split
  · next h => subst h; simp [lang]
  · rfl

theorem starL_cons_iff (L : List Nat → Prop) (x : Nat) (w : List Nat) :
    StarL L (x :: w) ↔ ∃ u v, w = u ++ v ∧ L (x :: u) ∧ StarL L v := by
  constructor
  · intro h
    generalize hz : x :: w = z at h
    induction h with
    | nil => cases hz
    | cons u v hne hu hv _ =>
      cases u with
      | nil => exact absurd rfl hne
      | cons y u' =>
        simp at hz
        obtain ⟨rfl, rfl⟩ := hz
        exact ⟨u', v, rfl, hu, hv⟩
  · rintro ⟨u, v, rfl, hu, hv⟩
    exact StarL.cons (x :: u) v (by simp) hu hv

theorem deriv_lang (x : Nat) (r : RE) : ∀ w, lang (deriv x r) w ↔ lang r (x :: w) := by
  induction r with
  | empty => intro w; simp [deriv, lang]
  | eps => intro w; simp [deriv, lang]
  | cls m =>
    intro w
    simp only [deriv]
    split
    · next h =>
      simp only [lang]
      constructor
      · rintro rfl; exact ⟨x, rfl, h⟩
      · rintro ⟨y, hy, _⟩; simp at hy; exact hy.2
    · next h =>
      simp only [lang]
      constructor
      · intro hf; exact hf.elim
      · rintro ⟨y, hy, hb⟩
        simp at hy; obtain ⟨rfl, _⟩ := hy; exact h hb
  | cat a b iha ihb =>
    intro w
    have key : lang (cat a b) (x :: w) ↔ (lang a [] ∧ lang b (x :: w)) ∨ ∃ u v, w = u ++ v ∧ lang a (x :: u) ∧ lang b v := by
      simp only [lang]
      constructor
      · rintro ⟨u, v, h, hu, hv⟩
        cases u with
        | nil => left; simp at h; subst h; exact ⟨hu, hv⟩
        | cons y u' =>
          right; simp at h; obtain ⟨rfl, rfl⟩ := h
          exact ⟨u', v, rfl, hu, hv⟩
      · rintro (⟨h1, h2⟩ | ⟨u, v, rfl, hu, hv⟩)
        · exact ⟨[], x :: w, rfl, h1, h2⟩
        · exact ⟨x :: u, v, rfl, hu, hv⟩
    rw [key]
    simp only [deriv]
    split
    · next hn =>
      rw [lang_mkAlt, lang_mkCat]
      simp only [lang, iha, ihb]
      have := (nullable_iff a).1 hn
      constructor
      · rintro (h | h)
        · right; exact h
        · left; exact ⟨this, h⟩
      · rintro (⟨_, h⟩ | h)
        · right; exact h
        · left; exact h
    · next hn =>
      rw [lang_mkCat]
      simp only [lang, iha]
      have : ¬ lang a [] := fun h => hn ((nullable_iff a).2 h)
      constructor
      · intro h; right; exact h
      · rintro (⟨h, _⟩ | h)
        · exact absurd h this
        · exact h
  | alt a b iha ihb => intro w; simp [deriv, lang_mkAlt, lang, iha, ihb]
  | star a iha =>
    intro w
    simp only [deriv, lang_mkCat]
    simp only [lang, starL_cons_iff, iha]
  | and a b iha ihb => intro w; simp [deriv, lang_mkAnd, lang, iha, ihb]
  | not a iha => intro w; simp [deriv, mkNot, lang, iha]

theorem accepts_iff (r : RE) (w : List Nat) : accepts r w = true ↔ lang r w := by
  induction w generalizing r with
  | nil => simp [accepts, nullable_iff]
  | cons x xs ih => simp [accepts, ih, deriv_lang]

/-- The invariant (second hypothesis): what has been seen has its successors seen or still to do.  At the end nothing is to
    do, so the result is closed under `next`; it holds what was seen and what was to do at the start. -/
theorem closure_closed {α : Type} {mem : α → List α → Bool} (hmem : ∀ a l, mem a l = true ↔ a ∈ l) (next : α → List α) :
    ∀ fuel todo seen res, closure mem next fuel todo seen = some res →
    (∀ q ∈ seen, ∀ d ∈ next q, d ∈ seen ∨ d ∈ todo) →
    (∀ q ∈ res, ∀ d ∈ next q, d ∈ res) ∧ (∀ q ∈ seen, q ∈ res) ∧ (∀ q ∈ todo, q ∈ res) := by
  intro fuel
  induction fuel with
  | zero => intro todo seen res h; simp [closure] at h
  | succ n ih =>
    intro todo seen res h hinv
    cases todo with
    | nil =>
      simp only [closure, Option.some.injEq] at h; subst h
      exact ⟨fun q hq d hd => (hinv q hq d hd).resolve_right (List.not_mem_nil), fun _ h => h, fun _ h => nomatch h⟩
    | cons r todo =>
      simp only [closure] at h
      split at h
      · next hc =>
        have hr : r ∈ seen := (hmem r seen).1 hc
        obtain ⟨h1, h2, h3⟩ := ih todo seen res h (fun q hq d hd => by
          rcases hinv q hq d hd with h' | h'
          · exact Or.inl h'
          · rcases List.mem_cons.1 h' with h' | h'
            · exact Or.inl (h' ▸ hr)
            · exact Or.inr h')
        refine ⟨h1, h2, fun q hq => ?_⟩
        rcases List.mem_cons.1 hq with rfl | hq
        · exact h2 _ hr
        · exact h3 q hq
      · obtain ⟨h1, h2, h3⟩ := ih _ _ res h (fun q hq d hd => by
          rcases List.mem_cons.1 hq with rfl | hq
          · exact Or.inr (List.mem_append_left _ hd)
          · rcases hinv q hq d hd with h' | h'
            · exact Or.inl (List.mem_cons_of_mem _ h')
            · rcases List.mem_cons.1 h' with h' | h'
              · exact Or.inl (h' ▸ List.mem_cons_self)
              · exact Or.inr (List.mem_append_right _ h'))
        exact ⟨h1, fun q hq => h2 q (List.mem_cons_of_mem _ hq), fun q hq => by
          rcases List.mem_cons.1 hq with rfl | hq
          · exact h2 _ List.mem_cons_self
          · exact h3 q (List.mem_append_right _ hq)⟩

theorem explore_eq_closure (nsym fuel : Nat) (todo seen : List RE) : explore nsym fuel todo seen =
    closure (fun r l => l.contains r) (fun r => (List.range (nsym+1)).map (fun x => deriv x r)) fuel todo seen := by
  induction fuel generalizing todo seen with
  | zero => rfl
  | succ n ih => cases todo <;> simp [explore, closure, ih]

theorem explore_closed (nsym : Nat) : ∀ fuel todo seen res,
    explore nsym fuel todo seen = some res →
    (∀ q ∈ seen, ∀ x ≤ nsym, deriv x q ∈ seen ∨ deriv x q ∈ todo) →
    (∀ q ∈ res, ∀ x ≤ nsym, deriv x q ∈ res) ∧ (∀ q ∈ seen, q ∈ res) ∧ (∀ q ∈ todo, q ∈ res) := by
  intro fuel todo seen res h hinv
  rw [explore_eq_closure] at h
  have hin : ∀ x ≤ nsym, ∀ q, deriv x q ∈ (List.range (nsym+1)).map (fun x => deriv x q) :=
    fun x hx q => List.mem_map.2 ⟨x, List.mem_range.2 (Nat.lt_succ_of_le hx), rfl⟩
  obtain ⟨h1, h2⟩ := closure_closed (fun _ _ => List.contains_iff_mem) _ fuel todo seen res h (fun q hq d hd => by
    obtain ⟨x, hx, rfl⟩ := List.mem_map.1 hd
    exact hinv q hq x (Nat.le_of_lt_succ (List.mem_range.1 hx)))
  exact ⟨fun q hq x hx => h1 q hq _ (hin x hx q), h2⟩

/-- closure is asked only under the derivatives by a symbol some word of the state begins with (`lang q (x :: w)`): that is
    what lets `emptyK` skip the other symbols -/
theorem empty_of_closed (nsym : Nat) (S : List RE) (hn : ∀ q ∈ S, q.nullable = false)
    (hcl : ∀ q ∈ S, ∀ x ≤ nsym, ∀ w, lang q (x :: w) → deriv x q ∈ S) :
    ∀ w, (∀ x ∈ w, x ≤ nsym) → ∀ q ∈ S, ¬ lang q w := by
  intro w
  induction w with
  | nil => intro _ q hq hl; exact Bool.noConfusion ((hn q hq).symm.trans ((nullable_iff q).2 hl))
  | cons x xs ih =>
    intro hw q hq hl
    exact ih (fun y hy => hw y (List.mem_cons_of_mem _ hy)) _ (hcl q hq x (hw x List.mem_cons_self) xs hl)
      ((deriv_lang x q xs).2 hl)

theorem isEmptyLang_sound (nsym fuel : Nat) (r : RE) (h : isEmptyLang nsym fuel r = true) :
    ∀ w : List Nat, (∀ x ∈ w, x ≤ nsym) → ¬ lang r w := by
  unfold isEmptyLang at h
  split at h
  · cases h
  · next seen hs =>
    have hcl := explore_closed nsym fuel [r] [] seen hs (fun _ hq => nomatch hq)
    exact fun w hw => empty_of_closed nsym seen (fun q hq => by simpa using List.all_eq_true.1 h q hq)
      (fun q hq x hx _ _ => hcl.1 q hq x hx) w hw r (hcl.2.2 r List.mem_cons_self)

def InAlpha (nsym : Nat) (w : List Nat) : Prop := ∀ x ∈ w, x ≤ nsym

theorem equiv_of_check (nsym fuel : Nat) (a b : RE)
    (h : isEmptyLang nsym fuel (symdiff a b) = true) :
    ∀ w, InAlpha nsym w → (lang a w ↔ lang b w) := by
  intro w hw
  have := isEmptyLang_sound nsym fuel _ h w hw
  simp only [symdiff, lang] at this
  constructor
  · intro ha
    apply Classical.byContradiction
    intro hb; exact this (Or.inl ⟨ha, hb⟩)
  · intro hb
    apply Classical.byContradiction
    intro ha; exact this (Or.inr ⟨hb, ha⟩)

theorem disjoint_of_check (nsym fuel : Nat) (a b : RE)
    (h : isEmptyLang nsym fuel (RE.and a b) = true) :
    ∀ w, InAlpha nsym w → ¬ (lang a w ∧ lang b w) := by
  intro w hw
  have := isEmptyLang_sound nsym fuel _ h w hw
  simpa [lang] using this

theorem subset_of_check (nsym fuel : Nat) (a b : RE)
    (h : isEmptyLang nsym fuel (RE.and a (RE.not b)) = true) :
    ∀ w, InAlpha nsym w → lang a w → lang b w := by
  intro w hw ha
  have := isEmptyLang_sound nsym fuel _ h w hw
  simp only [lang] at this
  apply Classical.byContradiction
  intro hb; exact this ⟨ha, hb⟩

/-! ## The syntactic fast path of `eqCheck` (`flatEq`): equal sets of flattened alternatives (`flat`) have equal languages -/

def langList : List RE → List Nat → Prop
  | [] => fun w => w = []
  | x :: xs => fun w => ∃ u v, w = u ++ v ∧ lang x u ∧ langList xs v

theorem langList_append (l1 l2 : List RE) : ∀ w,
    langList (l1 ++ l2) w ↔ ∃ u v, w = u ++ v ∧ langList l1 u ∧ langList l2 v := by
  induction l1 with
  | nil =>
    intro w
    simp only [List.nil_append, langList]
    constructor
    · intro h; exact ⟨[], w, rfl, rfl, h⟩
    · rintro ⟨u, v, rfl, rfl, h⟩; simpa using h
  | cons x xs ih =>
    intro w
    simp only [List.cons_append, langList, ih]
    constructor
    · rintro ⟨u, v, rfl, hx, u', v', rfl, h1, h2⟩
      exact ⟨u ++ u', v', by simp, ⟨u, u', rfl, hx, h1⟩, h2⟩
    · rintro ⟨u, v, rfl, ⟨u1, u2, rfl, hx, h1⟩, h2⟩
      exact ⟨u1, u2 ++ v, by simp, hx, u2, v, rfl, h1, h2⟩

theorem langList_singleton (r : RE) (w : List Nat) : langList [r] w ↔ lang r w := by
  simp only [langList]
  constructor
  · rintro ⟨u, v, rfl, h, rfl⟩; simpa using h
  · intro h; exact ⟨w, [], by simp, h, rfl⟩

theorem lang_catList (r : RE) : ∀ w, langList (catList r) w ↔ lang r w := by
  induction r with
  | cat a b iha ihb =>
    intro w
    simp only [catList, langList_append, lang, iha, ihb]
  | eps => intro w; simp [catList, langList, lang]
  | _ => intro w; simp only [catList]; exact langList_singleton _ w

theorem lang_flat (r : RE) : ∀ w, lang r w ↔ ∃ l ∈ flat r, langList l w := by
  induction r with
  | alt a b iha ihb =>
    intro w
    simp only [flat, lang, List.mem_append, iha, ihb]
    constructor
    · rintro (⟨l, hl, h⟩ | ⟨l, hl, h⟩)
      · exact ⟨l, Or.inl hl, h⟩
      · exact ⟨l, Or.inr hl, h⟩
    · rintro ⟨l, hl | hl, h⟩
      · exact Or.inl ⟨l, hl, h⟩
      · exact Or.inr ⟨l, hl, h⟩
  | cat a c iha _ =>
    intro w
    simp only [flat, lang, List.mem_map]
    constructor
    · rintro ⟨u, v, rfl, hu, hv⟩
      obtain ⟨l, hl, h⟩ := (iha u).1 hu
      exact ⟨l ++ catList c, ⟨l, hl, rfl⟩, (langList_append _ _ _).2 ⟨u, v, rfl, h, (lang_catList c v).2 hv⟩⟩
    · rintro ⟨_, ⟨l, hl, rfl⟩, h⟩
      obtain ⟨u, v, rfl, hu, hv⟩ := (langList_append _ _ _).1 h
      exact ⟨u, v, rfl, (iha u).2 ⟨l, hl, hu⟩, (lang_catList c v).1 hv⟩
  | eps => intro w; simp [flat, lang, langList]
  | _ => intro w; simp only [flat, List.mem_singleton, exists_eq_left]; exact (langList_singleton _ w).symm

theorem flatEq_sound (a b : RE) (h : flatEq a b = true) : ∀ w, lang a w ↔ lang b w := by
  intro w
  simp only [flatEq, Bool.and_eq_true, List.all_eq_true, List.contains_iff_mem] at h
  rw [lang_flat a, lang_flat b]
  constructor
  · rintro ⟨l, hl, hw⟩; exact ⟨l, h.1 l hl, hw⟩
  · rintro ⟨l, hl, hw⟩; exact ⟨l, h.2 l hl, hw⟩

theorem eqCheck_sound (nsym fuel : Nat) (a b : RE) (h : eqCheck nsym fuel a b = true) :
    ∀ w, InAlpha nsym w → (lang a w ↔ lang b w) := by
  intro w hw
  simp only [eqCheck, Bool.or_eq_true] at h
  rcases h with h | h
  · exact flatEq_sound a b h w
  · exact equiv_of_check nsym fuel a b h w hw

theorem testBit_foldl_or {α : Type} (g : α → Nat) (l : List α) (a y : Nat) :
    (l.foldl (fun acc x => acc ||| g x) a).testBit y = (a.testBit y || l.any (fun x => (g x).testBit y)) := by
  induction l generalizing a with
  | nil => simp
  | cons x xs ih => simp only [List.foldl_cons, ih, Nat.testBit_or, List.any_cons, Bool.or_assoc]

end RE
end AthlibVerif
