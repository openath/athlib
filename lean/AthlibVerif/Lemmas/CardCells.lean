import AthlibVerif.Lemmas.CardLog
/-!
# Cell by cell: what stands in the column of a bar is what the athlete did at that bar

`CardLog` says the card read left to right is the athlete's accepted trials.  This file sharpens it to the cells: in every
reachable competition the card, padded with empty cells to the number of bars so far, has in its `i`-th cell exactly the
athlete's accepted trials made between the `i`-th bar call and the next one, in order.  (`to_matrix` writes the card as it is
under a header of all the heights; `from_matrix` reads a cell that is not there as empty.)
-/
namespace AthlibVerif.HJ

def cellStep (b : Nat) (cells : List (List Trial)) (op : Op) : List (List Trial) :=
  match op with
  | .bar _ => cells ++ [[]]
  | .trial b' t => if b' == b then appendLast cells t else cells
  | .add _ => cells

def cellsOf (b : Nat) (log : List Op) : List (List Trial) := log.foldl (cellStep b) []

theorem cellsOf_snoc (b : Nat) (log : List Op) (op : Op) : cellsOf b (log ++ [op]) = cellStep b (cellsOf b log) op := by
  unfold cellsOf; rw [List.foldl_append]; rfl

def bars (log : List Op) : Nat := (log.filter (fun op => match op with | .bar _ => true | _ => false)).length

theorem bars_cons (op : Op) (l : List Op) : bars (op :: l) = (match op with | .bar _ => 1 | _ => 0) + bars l := by
  unfold bars
  cases op <;> simp <;> omega

theorem foldl_cells_length (b : Nat) : ∀ (log : List Op) (acc : List (List Trial)),
    (log.foldl (cellStep b) acc).length = acc.length + bars log := by
  intro log
  induction log with
  | nil => intro acc; simp [bars]
  | cons op l ih =>
    intro acc
    rw [List.foldl_cons, ih, bars_cons]
    cases op with
    | add x => simp [cellStep]
    | bar x => simp [cellStep]; omega
    | trial b' t =>
      simp only [cellStep]
      split
      · rw [appendLast_length]; simp
      · simp

theorem cellsOf_length (b : Nat) (log : List Op) : (cellsOf b log).length = bars log := by
  unfold cellsOf; rw [foldl_cells_length]; simp

theorem foldl_cells_absent (b : Nat) : ∀ (log : List Op) (acc : List (List Trial)), (∀ t, Op.trial b t ∉ log) →
    log.foldl (cellStep b) acc = acc ++ List.replicate (bars log) [] := by
  intro log
  induction log with
  | nil => intro acc _; simp [bars]
  | cons op l ih =>
    intro acc h
    have hl : ∀ t, Op.trial b t ∉ l := fun t hm => h t (List.mem_cons_of_mem _ hm)
    rw [List.foldl_cons, ih _ hl, bars_cons]
    cases op with
    | add x => simp [cellStep]
    | bar x =>
      simp only [cellStep, List.append_assoc]
      rw [show 1 + bars l = bars l + 1 by omega, List.replicate_succ]; rfl
    | trial b' t =>
      have hne : (b' == b) = false := by
        cases hb : (b' == b) with
        | false => rfl
        | true =>
          have : b' = b := by simpa using hb
          subst this
          exact (h t List.mem_cons_self).elim
      simp [cellStep, hne]

theorem cellsOf_absent (b : Nat) (log : List Op) (h : ∀ t, Op.trial b t ∉ log) :
    cellsOf b log = List.replicate (bars log) [] := by
  unfold cellsOf; rw [foldl_cells_absent b log [] h]; simp

theorem bars_snoc (l : List Op) (op : Op) : bars (l ++ [op]) = bars l + (match op with | .bar _ => 1 | _ => 0) := by
  unfold bars
  rw [List.filter_append]
  cases op <;> simp

def BarsLog (c : Comp) : Prop := c.heights.length = bars c.log

def CardCells (c : Comp) : Prop := ∀ j ∈ c.jumpers, padCard j.card c.heights.length = cellsOf j.bib c.log

theorem BarsLog.accepts {c c' : Comp} {op : Op} (h : BarsLog c) (ha : Accepts c op c') : BarsLog c' := by
  unfold BarsLog at *
  rw [ha.log, bars_snoc]
  cases ha with
  | add => exact h
  | bar x =>
    show (c.heights ++ [x]).length = bars c.log + 1
    rw [List.length_append, h]
    rfl
  | trial b t j =>
    rw [trialResult_heights]
    exact h

theorem CardCells.accepts {c c' : Comp} {op : Op} (hw : WF c) (hf : AllFlags c) (hl : LogBibs c) (hb : BarsLog c)
    (h : CardCells c) (ha : Accepts c op c') : CardCells c' :=
  ha.forall_records_log (P := fun hs lg j => padCard j.card hs.length = cellsOf j.bib lg) hw
    (new := fun b p hn => by
      -- a new athlete: an empty card, and no trial of this bib in the log so far
      rw [cellsOf_snoc]
      show padCard [] c.heights.length = cellsOf b c.log
      rw [cellsOf_absent b c.log (fun t ht => find_none_not_mem c b hn (hl b t ht)), ← hb]
      simp [padCard])
    (add := fun b _ k _ hk => by
      rw [cellsOf_snoc]
      exact hk)
    (bar := fun x k hm hk => by
      rw [cellsOf_snoc, List.length_append, List.length_singleton, padCard_succ _ _ (hf k hm).len]
      exact congrArg (· ++ [[]]) hk)
    (act := fun t k hm hh _ _ _ hk => by
      -- the athlete who jumped: the new card is full, and the mark went into its last cell
      have hfull := (card_after_trial k.card (List.length_pos_iff.2 hh) (hf k hm).len t).1
      rw [actCore_bib, actCore_card, padCard_of_full _ _ hfull, cellsOf_snoc, ← hk]
      simp [cellStep])
    (other := fun b t k _ hne hk => by
      rw [cellsOf_snoc, ← hk]
      simp [cellStep, Ne.symm hne])
    (rerank := fun lg k k' hr hk => by
      -- `_rank` touches neither the card nor the bib
      cases hr with
      | place => exact hk
      | back => exact hk) h

end AthlibVerif.HJ
