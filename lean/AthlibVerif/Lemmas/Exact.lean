import AthlibVerif.Model.Exact
/-! specification of `iroot`, `floorPow` and `ceilDiv` (core Lean only) -/
namespace AthlibVerif

theorem irootAux_spec (b n lo hi : Nat) (hlo : lo ^ b ≤ n) (hhi : n < hi ^ b) (hlt : lo < hi) :
    (irootAux b n lo hi) ^ b ≤ n ∧ n < (irootAux b n lo hi + 1) ^ b := by
  fun_induction irootAux b n lo hi with
  | case1 lo hi h mid hm ih => exact ih hm hhi (by omega)
  | case2 lo hi h mid hm ih => exact ih hlo (by omega) (by omega)
  | case3 lo hi h =>
    have : hi = lo + 1 := by omega
    subst this
    exact ⟨hlo, hhi⟩

theorem iroot_spec (b n : Nat) (hb : 0 < b) : (iroot b n) ^ b ≤ n ∧ n < (iroot b n + 1) ^ b := by
  unfold iroot
  simp only
  split
  · next h =>
    apply irootAux_spec _ _ _ _ _ h
    · apply Nat.pos_of_ne_zero
      intro h0
      rw [h0, Nat.zero_pow hb] at h
      exact Nat.not_lt_zero _ h
    · rw [Nat.zero_pow hb]; exact Nat.zero_le _
  · apply irootAux_spec
    · rw [Nat.zero_pow hb]; exact Nat.zero_le _
    · exact Nat.lt_of_lt_of_le (Nat.lt_succ_self n) (Nat.le_self_pow (Nat.ne_of_gt hb) _)
    · omega

theorem le_iroot_iff (b n p : Nat) (hb : 0 < b) : p ≤ iroot b n ↔ p ^ b ≤ n := by
  have ⟨h1, h2⟩ := iroot_spec b n hb
  constructor
  · intro h
    exact Nat.le_trans (Nat.pow_le_pow_left h b) h1
  · intro h
    exact Nat.le_of_lt_succ ((Nat.pow_lt_pow_iff_left (Nat.ne_of_gt hb)).1 (Nat.lt_of_le_of_lt h h2))

theorem iroot_mono (b n m : Nat) (hb : 0 < b) (h : n ≤ m) : iroot b n ≤ iroot b m := by
  rw [le_iroot_iff b m _ hb]
  exact Nat.le_trans (iroot_spec b n hb).1 h

/-- the integer form of `p ≤ A·D^(xa/xb)`, with `A = aN/aD` and `D = dN/dD` -/
theorem le_floorPow_iff (aN aD dN dD xa xb p : Nat) (hb : 0 < xb) (haD : 0 < aD) (hdD : 0 < dD) :
    p ≤ floorPow aN aD dN dD xa xb ↔ p ^ xb * (aD ^ xb * dD ^ xa) ≤ aN ^ xb * dN ^ xa := by
  unfold floorPow
  rw [le_iroot_iff _ _ _ hb]
  have hpos : 0 < aD ^ xb * dD ^ xa := Nat.mul_pos (Nat.pow_pos haD) (Nat.pow_pos hdD)
  exact Nat.le_div_iff_mul_le hpos

theorem floorPow_mono (aN aD dN dN' dD xa xb : Nat) (hb : 0 < xb) (h : dN ≤ dN') :
    floorPow aN aD dN dD xa xb ≤ floorPow aN aD dN' dD xa xb := by
  unfold floorPow
  apply iroot_mono _ _ _ hb
  apply Nat.div_le_div_right
  exact Nat.mul_le_mul_left _ (Nat.pow_le_pow_left h xa)

theorem ceilDiv_le_iff (n d m : Nat) (hd : 0 < d) : ceilDiv n d ≤ m ↔ n ≤ m * d := by
  unfold ceilDiv
  rw [Nat.div_le_iff_le_mul_add_pred hd]
  have hc : d * m = m * d := Nat.mul_comm d m
  constructor <;> intro h <;> omega

theorem ceilDiv_spec (n d : Nat) (hd : 0 < d) : n ≤ ceilDiv n d * d ∧ (ceilDiv n d - 1) * d < n ∨ (n = 0 ∧ ceilDiv n d = 0) := by
  have h0 := ceilDiv_le_iff n d 0 hd
  have h1 := ceilDiv_le_iff n d (ceilDiv n d - 1) hd
  have h2 := ceilDiv_le_iff n d (ceilDiv n d) hd
  rw [Nat.zero_mul] at h0
  omega

theorem le_floorDiv_iff (n d m : Nat) (hd : 0 < d) : m ≤ floorDiv n d ↔ m * d ≤ n := by
  unfold floorDiv; exact Nat.le_div_iff_mul_le hd

theorem ceilDiv_mono (n n' d : Nat) (h : n ≤ n') : ceilDiv n d ≤ ceilDiv n' d := by
  unfold ceilDiv; apply Nat.div_le_div_right; omega
end AthlibVerif
