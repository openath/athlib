import AthlibVerif.Lemmas.Places
/-!
# The order of `ranked_jumpers` is unobservable

`_rankj` sorts the previous ranked list stably, so among athletes with equal keys the earlier order survives — and
`_rank` then looks at the first and second entries of that list.  This file shows that nothing observable depends on
it: two competitions with the same athletes, heights and state whose ranked lists are permutations of each other
are again such a pair after `_rank` (same records incl. places, same state).

That is one instance of `rank_pairedBy`: `_rank` treats alike two competitions whose records are paired off by any
relation that fixes what `_rank` reads of a record and is kept by what it writes (`RankCompat`).  Records equal up
to the place (`ModPlace`) give `rank_same`; records equal up to pass marks give `rank_paired` in Lemmas/EraseRank.
-/
namespace AthlibVerif.HJ
open AthlibVerif.Ranking

/-- The same records (places included), heights and state; the ranked lists are rearrangements of each other; the logs
    are not compared. -/
def SameButRanked (a b : Comp) : Prop :=
  a.jumpers = b.jumpers ∧ a.heights = b.heights ∧ a.phase = b.phase ∧ a.ranked.Perm b.ranked

theorem SameButRanked.refl (a : Comp) : SameButRanked a a := ⟨rfl, rfl, rfl, List.Perm.refl _⟩
theorem SameButRanked.symm {a b : Comp} (h : SameButRanked a b) : SameButRanked b a :=
  ⟨h.1.symm, h.2.1.symm, h.2.2.1.symm, h.2.2.2.symm⟩
theorem SameButRanked.trans {a b c : Comp} (h1 : SameButRanked a b) (h2 : SameButRanked b c) : SameButRanked a c :=
  ⟨h1.1.trans h2.1, h1.2.1.trans h2.2.1, h1.2.2.1.trans h2.2.2.1, h1.2.2.2.trans h2.2.2.2⟩

def SortedRanked (c : Comp) : Prop := SortedK Key.lt (c.ranked.map (keyOf c))

theorem keyOf_congr (a b : Comp) (h : a.jumpers = b.jumpers) : keyOf a = keyOf b := by
  funext x; unfold keyOf Comp.find; rw [h]

theorem rankj_keyOf (c : Comp) (h : WF c) : keyOf (rankj c) = keyOf c :=
  (keyOf_congr (rankj c) { c with jumpers := _ } (rankj_jumpers c h)).trans
    (keyOf_map c _ (fun _ => rfl) (fun _ => rfl))

theorem rankj_sorted (c : Comp) (h : WF c) : SortedRanked (rankj c) := by
  unfold SortedRanked
  rw [rankj_keyOf c h, rankj_ranked_list, sortRanked_is_key_sort c c.ranked (wf_found c h)]
  exact sortK_sorted Key.lt keyLt_strictTotal _

theorem nodup_of_map_bib (l : List Jumper) (h : (l.map (·.bib)).Nodup) : l.Nodup :=
  List.Pairwise.of_map (·.bib) (fun _ _ hne e => hne (congrArg Jumper.bib e)) h

theorem eq_singleton_of_nodup {α : Type} (l : List α) (w : α) (hnd : l.Nodup) (hm : w ∈ l) (hall : ∀ k ∈ l, k = w) :
    l = [w] := by
  match l, hnd, hm, hall with
  | [], _, hm, _ => cases hm
  | [x], _, _, hall => rw [hall x (by simp)]
  | x :: y :: _, hnd, _, hall =>
    have hx := hall x (by simp)
    have hy := hall y (by simp)
    simp [hx, hy] at hnd

def firsts (c : Comp) : List Jumper := c.jumpers.filter (fun j => j.place == 1)

theorem place_one_iff (c : Comp) (hr : Ranked c) (j : Jumper) (hj : j ∈ c.jumpers) :
    j.place = 1 ↔ ∀ k ∈ c.jumpers, Key.lt k.key j.key = false := by
  rw [hr j hj, ← countLt_keys]
  have h0 := countLt_eq_zero_iff Key.lt (c.jumpers.map Jumper.key) j.key
  constructor
  · intro h k hk
    exact h0.1 (by omega) k.key (List.mem_map.2 ⟨k, hk, rfl⟩)
  · intro h
    rw [h0.2 (fun x hx => by
      obtain ⟨k, hk, rfl⟩ := List.mem_map.1 hx
      exact h k hk)]

theorem same_key_same_place (c : Comp) (hr : Ranked c) (j k : Jumper) (hj : j ∈ c.jumpers) (hk : k ∈ c.jumpers)
    (e : j.key = k.key) : j.place = k.place := by
  rw [hr j hj, hr k hk, e]

theorem bib_in_ranked (c : Comp) (hw : WF c) (j : Jumper) (hj : j ∈ c.jumpers) : j.bib ∈ c.ranked :=
  hw.2.mem_iff.2 (List.mem_map.2 ⟨j, hj, rfl⟩)

theorem sorted_head_min (c : Comp) (hw : WF c) (r : Nat) (rest : List Nat) (hs : SortedK Key.lt ((r :: rest).map (keyOf c)))
    (jr : Jumper) (hr : c.find r = some jr) (k : Jumper) (hk : k ∈ c.jumpers) (hkb : k.bib ∈ r :: rest) :
    Key.lt k.key jr.key = false := by
  simp only [List.map_cons, SortedK] at hs
  rcases List.mem_cons.1 hkb with e | e
  · rw [eq_of_find c hw.1 hr hk (beq_iff_eq.2 e)]
    exact keyLt_strictTotal.irrefl _
  · have := hs.1 (keyOf c k.bib) (List.mem_map.2 ⟨k.bib, e, rfl⟩)
    rwa [keyOf_bib c hw k hk, keyOf_of_find hr] at this

theorem head_is_first (c : Comp) (hw : WF c) (hr : Ranked c) (hs : SortedRanked c) (r0 : Nat) (rest : List Nat)
    (hl : c.ranked = r0 :: rest) : ∃ j0, c.find r0 = some j0 ∧ j0 ∈ c.jumpers ∧ j0.place = 1 := by
  obtain ⟨j0, hj0⟩ := Option.isSome_iff_exists.1 (wf_found c hw r0 (by rw [hl]; simp))
  have hm := (find_some_mem c r0 j0 hj0).1
  unfold SortedRanked at hs
  rw [hl] at hs
  refine ⟨j0, hj0, hm, (place_one_iff c hr j0 hm).2 (fun k hk => ?_)⟩
  exact sorted_head_min c hw r0 rest hs j0 hj0 k hk (hl ▸ bib_in_ranked c hw k hk)

theorem only_head_first (c : Comp) (hw : WF c) (hr : Ranked c) (hs : SortedRanked c) (r0 : Nat) (rest : List Nat)
    (hl : c.ranked = r0 :: rest) (h2 : secondIsFirst c rest = false) (j : Jumper) (hj : j ∈ c.jumpers) (hp : j.place = 1) :
    c.find r0 = some j := by
  have hjb := bib_in_ranked c hw j hj
  rw [hl] at hjb
  rcases List.mem_cons.1 hjb with e | e
  · rw [← e]
    exact find_of_mem c hw.1 j hj
  · exfalso
    cases rest with
    | nil => cases e
    | cons r1 rest' =>
      obtain ⟨j1, hj1⟩ := Option.isSome_iff_exists.1 (wf_found c hw r1 (by rw [hl]; simp))
      have hm1 := (find_some_mem c r1 j1 hj1).1
      have hp1 : j1.place ≠ 1 := by
        intro hp1
        simp [secondIsFirst, hj1, hp1] at h2
      -- j's key is minimal, and not before j1's in the sorted order: equal keys, hence equal places
      have hmin := (place_one_iff c hr j hj).1 hp j1 hm1
      unfold SortedRanked at hs
      rw [hl] at hs
      have hle := sorted_head_min c hw r1 rest' hs.2 j1 hj1 j hj e
      have hkey : j.key = j1.key := by
        rcases keyLt_strictTotal.tri j.key j1.key with h | h | h
        · rw [hle] at h; cases h
        · exact h
        · rw [hmin] at h; cases h
      exact hp1 ((same_key_same_place c hr j j1 hj hm1 hkey).symm.trans hp)

theorem two_le_filter {α : Type} (l : List α) (p : α → Bool) (a b : α) (ha : a ∈ l) (hb : b ∈ l) (hne : a ≠ b)
    (hpa : p a = true) (hpb : p b = true) : 2 ≤ (l.filter p).length := by
  have hma : a ∈ l.filter p := List.mem_filter.2 ⟨ha, hpa⟩
  have hmb : b ∈ l.filter p := List.mem_filter.2 ⟨hb, hpb⟩
  generalize l.filter p = m at hma hmb
  match m, hma, hmb with
  | [], hma, _ => cases hma
  | [x], hma, hmb =>
    simp only [List.mem_singleton] at hma hmb
    exact absurd (hma.trans hmb.symm) hne
  | _ :: _ :: _, _, _ => simp

/-- **`len(rankj) > 1 and rankj[1]._place == 1` says "at least two athletes are in first place"** — whatever the
    order among equal keys -/
theorem secondIsFirst_iff (c : Comp) (hw : WF c) (hr : Ranked c) (hs : SortedRanked c) (r0 : Nat) (rest : List Nat)
    (hl : c.ranked = r0 :: rest) : secondIsFirst c rest = true ↔ 2 ≤ (firsts c).length := by
  obtain ⟨j0, hj0, hm0, hp0⟩ := head_is_first c hw hr hs r0 rest hl
  constructor
  · intro h
    cases rest with
    | nil => simp [secondIsFirst] at h
    | cons r1 rest' =>
      have hf1 := wf_found c hw r1 (by rw [hl]; simp)
      obtain ⟨j1, hj1⟩ := Option.isSome_iff_exists.1 hf1
      obtain ⟨hm1, hb1⟩ := find_some_mem c r1 j1 hj1
      have hp1 : j1.place = 1 := by simpa [secondIsFirst, hj1] using h
      have hnd : (r0 :: r1 :: rest').Nodup := hl ▸ (hw.2.nodup_iff.2 hw.1)
      have hne : j0 ≠ j1 := by
        intro e
        have : r0 = r1 := by rw [← (find_some_mem c r0 j0 hj0).2, ← hb1, e]
        simp [this] at hnd
      exact two_le_filter c.jumpers (fun j => j.place == 1) j0 j1 hm0 hm1 hne (by simp [hp0]) (by simp [hp1])
  · intro h
    cases h2 : secondIsFirst c rest with
    | true => rfl
    | false =>
      exfalso
      have hall : ∀ j ∈ firsts c, j = j0 := by
        intro j hj
        obtain ⟨hjm, hjp⟩ := List.mem_filter.1 hj
        exact Option.some.inj ((only_head_first c hw hr hs r0 rest hl h2 j hjm (by simpa using hjp)).symm.trans hj0)
      have hnd : (firsts c).Nodup := (nodup_of_map_bib _ hw.1).filter _
      have hm : j0 ∈ firsts c := List.mem_filter.2 ⟨hm0, by simp [hp0]⟩
      rw [eq_singleton_of_nodup (firsts c) j0 hnd hm hall] at h
      simp at h

/-- What a relation between records must fix — everything `_rank` reads of a record — and be kept by — everything it
    writes; `n` is the number of heights.  What `_rank` reads of the card it reads only where the flags send it: of an
    athlete who is out (`out`), and of the one who is left (`cleared`). -/
structure RankCompat (S : Jumper → Jumper → Prop) (n : Nat) : Prop where
  bib : ∀ {j j'}, S j j' → j'.bib = j.bib
  key : ∀ {j j'}, S j j' → j'.key = j.key
  elim : ∀ {j j'}, S j j' → j'.eliminated = j.eliminated
  place : ∀ {j j'}, S j j' → ∀ p q, S { j with place := p } { j' with place := q }
  reinst : ∀ {j j'}, S j j' → S (reinstate j) (reinstate j')
  out : ∀ {j j'}, S j j' → j.eliminated = true → j'.card.length = j.card.length ∧ j'.hasRetired = j.hasRetired
  cleared : ∀ {j j'}, S j j' → (j'.card.length == n && (j'.card.getLast?.getD []).contains Trial.o) =
    (j.card.length == n && (j.card.getLast?.getD []).contains Trial.o)

structure PairedBy (S : Jumper → Jumper → Prop) (ps : List (Jumper × Jumper)) (c c' : Comp) : Prop where
  left : c.jumpers = ps.map Prod.fst
  right : c'.jumpers = ps.map Prod.snd
  sim : ∀ p ∈ ps, S p.1 p.2
  phase : c'.phase = c.phase
  heights : c'.heights = c.heights
  ranked : c'.ranked.Perm c.ranked

def PlacesEq (ps : List (Jumper × Jumper)) : Prop := ∀ p ∈ ps, p.2.place = p.1.place

section
variable {S : Jumper → Jumper → Prop} {ps : List (Jumper × Jumper)} {c c' : Comp}

theorem PairedBy.mem_left (h : PairedBy S ps c c') (p : Jumper × Jumper) (hp : p ∈ ps) : p.1 ∈ c.jumpers := by
  rw [h.left]
  exact List.mem_map.2 ⟨p, hp, rfl⟩

theorem PairedBy.mem_right (h : PairedBy S ps c c') (p : Jumper × Jumper) (hp : p ∈ ps) : p.2 ∈ c'.jumpers := by
  rw [h.right]
  exact List.mem_map.2 ⟨p, hp, rfl⟩

theorem PairedBy.of_left (h : PairedBy S ps c c') (j : Jumper) (hj : j ∈ c.jumpers) : ∃ p ∈ ps, p.1 = j := by
  rw [h.left] at hj
  obtain ⟨p, hp, e⟩ := List.mem_map.1 hj
  exact ⟨p, hp, e⟩

theorem PairedBy.filter (h : PairedBy S ps c c') (f : Jumper → Bool) (hf : ∀ p ∈ ps, f p.2 = f p.1) :
    c.jumpers.filter f = (ps.filter (fun p => f p.1)).map Prod.fst ∧
    c'.jumpers.filter f = (ps.filter (fun p => f p.1)).map Prod.snd := by
  rw [h.left, h.right, List.filter_map, List.filter_map]
  exact ⟨rfl, congrArg _ (List.filter_congr hf)⟩

theorem PairedBy.map (h : PairedBy S ps c c') (f g : Jumper → Jumper) (hfg : ∀ p ∈ ps, S (f p.1) (g p.2)) (d d' : Comp)
    (hd : d.jumpers = c.jumpers.map f) (hd' : d'.jumpers = c'.jumpers.map g)
    (hp : d'.phase = d.phase) (hh : d'.heights = d.heights) (hr : d'.ranked.Perm d.ranked) :
    PairedBy S (ps.map (fun p => (f p.1, g p.2))) d d' where
  left := by rw [hd, h.left, List.map_map, List.map_map]; rfl
  right := by rw [hd', h.right, List.map_map, List.map_map]; rfl
  sim := by
    intro p hp
    obtain ⟨q, hq, rfl⟩ := List.mem_map.1 hp
    exact hfg q hq
  phase := hp
  heights := hh
  ranked := hr

section
variable (hb : ∀ {j j'}, S j j' → j'.bib = j.bib)
include hb

theorem PairedBy.update (h : PairedBy S ps c c') (k k' : Jumper) (hk : S k k') :
    PairedBy S (ps.map (fun p => ((if p.1.bib == k.bib then k else p.1), (if p.2.bib == k'.bib then k' else p.2))))
      (c.update k) (c'.update k') := by
  refine h.map (fun j => if j.bib == k.bib then k else j) (fun j => if j.bib == k'.bib then k' else j) ?_ _ _ rfl rfl
    h.phase h.heights h.ranked
  intro p hp
  show S (if p.1.bib == k.bib then k else p.1) (if p.2.bib == k'.bib then k' else p.2)
  rw [hb (h.sim p hp), hb hk]
  split
  · exact hk
  · exact h.sim p hp

theorem PairedBy.bibs (h : PairedBy S ps c c') : c'.jumpers.map (·.bib) = c.jumpers.map (·.bib) := by
  rw [h.left, h.right, List.map_map, List.map_map]
  exact List.map_congr_left (fun p hp => hb (h.sim p hp))

theorem PairedBy.wf (h : PairedBy S ps c c') (hw : WF c) : WF c' :=
  WF_of_same_bibs c c' (h.bibs hb) h.ranked hw

theorem PairedBy.find_none (h : PairedBy S ps c c') (b : Nat) (hf : c.find b = none) : c'.find b = none := by
  unfold Comp.find at hf ⊢
  rw [List.find?_eq_none] at hf ⊢
  intro x hx
  have hm : x.bib ∈ c'.jumpers.map (·.bib) := List.mem_map.2 ⟨x, hx, rfl⟩
  rw [h.bibs hb] at hm
  obtain ⟨y, hy, e⟩ := List.mem_map.1 hm
  simpa only [e] using hf y hy

theorem PairedBy.find (h : PairedBy S ps c c') (hw' : WF c') (b : Nat) (j : Jumper) (hf : c.find b = some j) :
    ∃ p ∈ ps, p.1 = j ∧ c'.find b = some p.2 := by
  obtain ⟨hm, hbj⟩ := find_some_mem c b j hf
  obtain ⟨p, hp, e⟩ := h.of_left j hm
  refine ⟨p, hp, e, ?_⟩
  have := find_of_mem c' hw'.1 p.2 (h.mem_right p hp)
  rwa [hb (h.sim p hp), e, hbj] at this
end

variable {n : Nat} (hS : RankCompat S n)
include hS

theorem rankj_pairedBy (h : PairedBy S ps c c') (hw : WF c) :
    ∃ ps', PairedBy S ps' (rankj c) (rankj c') ∧ PlacesEq ps' := by
  have hw' := h.wf hS.bib hw
  refine ⟨_, h.map (fun j => { j with place := 1 + (c.jumpers.filter (fun k => Key.lt k.key j.key)).length })
      (fun j => { j with place := 1 + (c'.jumpers.filter (fun k => Key.lt k.key j.key)).length })
      (fun p hp => hS.place (h.sim p hp) _ _) _ _ (rankj_jumpers c hw) (rankj_jumpers c' hw') ?_ ?_ ?_, ?_⟩
  · rw [(rankj_frame c).2.2.1, (rankj_frame c').2.2.1, h.phase]
  · rw [(rankj_frame c).2.1, (rankj_frame c').2.1, h.heights]
  · rw [rankj_ranked_list, rankj_ranked_list]
    exact (sortRanked_perm c' c'.ranked).trans (h.ranked.trans (sortRanked_perm c c.ranked).symm)
  · intro p hp
    obtain ⟨q, hq, rfl⟩ := List.mem_map.1 hp
    obtain ⟨e1, e2⟩ := h.filter (fun k => Key.lt k.key q.1.key) (fun p hp => by rw [hS.key (h.sim p hp)])
    show 1 + _ = 1 + _
    rw [hS.key (h.sim q hq), e1, e2, List.length_map, List.length_map]

theorem rankTie_pairedBy (h : PairedBy S ps c c') (hpl : PlacesEq ps) (hw : WF c)
    (hall : ∀ p ∈ ps, p.1.eliminated = true) :
    ∃ ps', PairedBy S ps' (rankTie c) (rankTie c') ∧ PlacesEq ps' := by
  -- everybody is out, so `S` fixes what `reinstated` reads of the card
  have hre : ∀ p ∈ ps, reinstated c' p.2 = reinstated c p.1 := by
    intro p hp
    obtain ⟨hl, hr⟩ := hS.out (h.sim p hp) (hall p hp)
    unfold reinstated
    rw [hpl p hp, hr, hl, h.phase, h.heights]
  have hnc : (c'.jumpers.filter (reinstated c')).length = (c.jumpers.filter (reinstated c)).length := by
    rw [h.left, h.right, List.filter_map, List.filter_map, List.length_map, List.length_map]
    exact congrArg _ (List.filter_congr hre)
  have hsim : ∀ p ∈ ps, S (if reinstated c p.1 then reinstate p.1 else p.1) (if reinstated c' p.2 then reinstate p.2 else p.2) := by
    intro p hp
    rw [hre p hp]
    split
    · exact hS.reinst (h.sim p hp)
    · exact h.sim p hp
  unfold rankTie
  simp only
  rw [hnc]
  split
  · exact rankj_pairedBy hS (h.map _ _ hsim _ _ rfl rfl rfl h.heights h.ranked)
      (WF_of_map c _ _ rfl (fun k => by split <;> rfl) (List.Perm.refl _) hw)
  · refine ⟨_, h.map _ _ hsim _ _ rfl rfl rfl h.heights h.ranked, ?_⟩
    intro q hq
    obtain ⟨p, hp, rfl⟩ := List.mem_map.1 hq
    show (if reinstated c' p.2 then reinstate p.2 else p.2).place = (if reinstated c p.1 then reinstate p.1 else p.1).place
    rw [hre p hp]
    split
    · exact hpl p hp
    · exact hpl p hp

theorem rankLeader_pairedBy (h : PairedBy S ps c c') (hpl : PlacesEq ps) (hw : WF c)
    (hall : ∀ p ∈ ps, p.1.eliminated = true) (r0 r0' : Nat) (p0 : Jumper × Jumper) (hp0 : p0 ∈ ps)
    (hf : c.find r0 = some p0.1) (hf' : c'.find r0' = some p0.2) :
    ∃ ps', PairedBy S ps' (rankLeader c r0) (rankLeader c' r0') ∧ PlacesEq ps' := by
  obtain ⟨_, hr⟩ := hS.out (h.sim p0 hp0) (hall p0 hp0)
  unfold rankLeader
  rw [hf, hf']
  simp only
  rw [h.phase, hr]
  split
  · exact rankj_pairedBy hS (h.update hS.bib _ _ (hS.reinst (h.sim p0 hp0)))
      (WF_of_same_bibs c _ (update_bibs c _) (List.Perm.refl _) hw)
  · exact ⟨ps, ⟨h.left, h.right, h.sim, rfl, h.heights, h.ranked⟩, hpl⟩

theorem rankTail_pairedBy (h : PairedBy S ps c c') (hn : n = c.heights.length) (hpl : PlacesEq ps)
    (hw : WF c) (hr : Ranked c) (hs : SortedRanked c) (hr' : Ranked c') (hs' : SortedRanked c') :
    ∃ ps', PairedBy S ps' (rankTail c) (rankTail c') ∧ PlacesEq ps' := by
  have hw' := h.wf hS.bib hw
  unfold rankTail
  cases hla : c.ranked with
  | nil =>
    simp only [(hla ▸ h.ranked).eq_nil]
    exact ⟨ps, h, hpl⟩
  | cons r0 rest =>
    cases hlb : c'.ranked with
    | nil => cases (hla ▸ hlb ▸ h.ranked).nil_eq
    | cons r0' rest' =>
      simp only
      obtain ⟨hfl, hfl'⟩ := h.filter (fun j => !j.eliminated) (fun p hp => by rw [hS.elim (h.sim p hp)])
      rw [hfl, hfl']
      -- "two or more in first place" does not depend on the order of equal keys, and the places agree
      have h2 : secondIsFirst c' rest' = secondIsFirst c rest := by
        have ha := secondIsFirst_iff c hw hr hs r0 rest hla
        have hb := secondIsFirst_iff c' hw' hr' hs' r0' rest' hlb
        obtain ⟨hf1, hf2⟩ := h.filter (fun j => j.place == 1) (fun p hp => by rw [hpl p hp])
        unfold firsts at ha hb
        rw [hf1, List.length_map] at ha
        rw [hf2, List.length_map, ← ha] at hb
        exact Bool.eq_iff_iff.2 hb
      cases hfilt : ps.filter (fun p => !p.1.eliminated) with
      | nil =>
        have hall : ∀ p ∈ ps, p.1.eliminated = true := fun p hp => by
          simpa using List.filter_eq_nil_iff.1 hfilt p hp
        simp only [List.map_nil]
        rw [h2]
        split
        · exact rankTie_pairedBy hS h hpl hw hall
        · next hnot =>
          -- a single leader: the head of either ranked list is that athlete's bib
          have hnot1 : secondIsFirst c rest = false := by simpa using hnot
          obtain ⟨j0, hj0, hm0, hp0⟩ := head_is_first c hw hr hs r0 rest hla
          obtain ⟨p0, hp0m, hp0e⟩ := h.of_left j0 hm0
          have hf' : c'.find r0' = some p0.2 :=
            only_head_first c' hw' hr' hs' r0' rest' hlb (by rw [h2]; exact hnot1) p0.2 (h.mem_right p0 hp0m)
              (by rw [hpl p0 hp0m, hp0e]; exact hp0)
          exact rankLeader_pairedBy hS h hpl hw hall r0 r0' p0 hp0m (by rw [hp0e]; exact hj0) hf'
      | cons p1 tl =>
        cases tl with
        | nil =>
          simp only [List.map_cons, List.map_nil]
          have hp1 : p1 ∈ ps := (List.mem_filter.1 (by rw [hfilt]; simp : p1 ∈ ps.filter (fun p => !p.1.eliminated))).1
          unfold rankOneLeft
          rw [h.heights, ← hn, hS.cleared (h.sim p1 hp1), h.phase]
          split
          · exact ⟨ps, ⟨h.left, h.right, h.sim, rfl, rfl, h.ranked⟩, hpl⟩
          · exact ⟨ps, h, hpl⟩
        | cons p2 tl2 =>
          simp only [List.map_cons]
          exact ⟨ps, h, hpl⟩

theorem rank_pairedBy (h : PairedBy S ps c c') (hn : n = c.heights.length) (hw : WF c) :
    ∃ ps', PairedBy S ps' (rank c) (rank c') ∧ PlacesEq ps' := by
  have hw' := h.wf hS.bib hw
  obtain ⟨ps1, hP1, hpl1⟩ := rankj_pairedBy hS h hw
  rw [rank_eq_tail, rank_eq_tail]
  exact rankTail_pairedBy hS hP1 (by rw [hn, (rankj_frame c).2.1]) hpl1 (rankj_WF c hw) (rankj_ranked c hw)
    (rankj_sorted c hw) (rankj_ranked c' hw') (rankj_sorted c' hw')
end

/-- `0` is arbitrary: any one value for every record would do -/
def noPlace (j : Jumper) : Jumper := { j with place := 0 }

@[simp] theorem noPlace_bib (j : Jumper) : (noPlace j).bib = j.bib := rfl
@[simp] theorem noPlace_key (j : Jumper) : (noPlace j).key = j.key := rfl
@[simp] theorem noPlace_setplace (j : Jumper) (p : Nat) : noPlace { j with place := p } = noPlace j := rfl

def ModPlace (j j' : Jumper) : Prop := noPlace j' = noPlace j

theorem ModPlace.symm {j j' : Jumper} (h : ModPlace j j') : ModPlace j' j := Eq.symm h

theorem ModPlace.bib {j j' : Jumper} (h : ModPlace j j') : j'.bib = j.bib := (congrArg Jumper.bib h :)

theorem modPlace_compat (n : Nat) : RankCompat ModPlace n where
  bib := ModPlace.bib
  key := fun h => (congrArg Jumper.key h :)
  elim := fun h => (congrArg Jumper.eliminated h :)
  place := fun h _ _ => h
  reinst := fun h => (congrArg reinstate h :)
  out := fun h _ => ⟨(congrArg (fun j => j.card.length) h :), (congrArg Jumper.hasRetired h :)⟩
  cleared := fun h => (congrArg (fun j => j.card.length == n && (j.card.getLast?.getD []).contains Trial.o) h :)

theorem ModPlace.eq {j j' : Jumper} (h : ModPlace j j') (hp : j'.place = j.place) : j' = j := by
  have e : ∀ k : Jumper, k = { noPlace k with place := k.place } := fun _ => rfl
  rw [e j', e j, h, hp]

theorem PairedBy.same {ps : List (Jumper × Jumper)} {a b : Comp} (h : PairedBy ModPlace ps a b) (hpl : PlacesEq ps) :
    SameButRanked a b := by
  refine ⟨?_, h.heights.symm, h.phase.symm, h.ranked.symm⟩
  rw [h.left, h.right]
  exact List.map_congr_left (fun p hp => ((h.sim p hp).eq (hpl p hp)).symm)

theorem SameButRanked.paired {a b : Comp} (h : SameButRanked a b) : PairedBy ModPlace (a.jumpers.map (fun j => (j, j))) a b where
  left := by rw [List.map_map]; exact (List.map_id _).symm
  right := by rw [List.map_map, ← h.1]; exact (List.map_id _).symm
  sim := by
    intro p hp
    obtain ⟨j, _, rfl⟩ := List.mem_map.1 hp
    rfl
  phase := h.2.2.1.symm
  heights := h.2.1.symm
  ranked := h.2.2.2.symm

theorem PairedBy.symm {ps : List (Jumper × Jumper)} {a b : Comp} (h : PairedBy ModPlace ps a b) :
    PairedBy ModPlace (ps.map Prod.swap) b a where
  left := by rw [List.map_map]; exact h.right
  right := by rw [List.map_map]; exact h.left
  sim := by
    intro p hp
    obtain ⟨q, hq, rfl⟩ := List.mem_map.1 hp
    exact (h.sim q hq).symm
  phase := h.phase.symm
  heights := h.heights.symm
  ranked := h.ranked.symm

theorem rankj_modPlace (c : Comp) (hw : WF c) :
    PairedBy ModPlace (c.jumpers.map (fun j => (j, { j with place := 1 + (c.jumpers.filter (fun k => Key.lt k.key j.key)).length })))
      c (rankj c) where
  left := by rw [List.map_map]; exact (List.map_id _).symm
  right := by rw [List.map_map]; exact rankj_jumpers c hw
  sim := by
    intro p hp
    obtain ⟨j, _, rfl⟩ := List.mem_map.1 hp
    rfl
  phase := (rankj_frame c).2.2.1
  heights := (rankj_frame c).2.1
  ranked := by rw [rankj_ranked_list]; exact sortRanked_perm c c.ranked

theorem rank_same (a b : Comp) (hw : WF a) (h : SameButRanked a b) : SameButRanked (rank a) (rank b) := by
  obtain ⟨ps, hP, hpl⟩ := rank_pairedBy (modPlace_compat _) h.paired rfl hw
  exact hP.same hpl

theorem step_same (a b : Comp) (op : Op) (hw : WF a) (h : SameButRanked a b) :
    (step a op).2 = (step b op).2 ∧ SameButRanked (step a op).1 (step b op).1 := by
  obtain ⟨hj, hh, hp, hperm⟩ := h
  have hfind : ∀ x, a.find x = b.find x := fun x => by unfold Comp.find; rw [hj]
  cases op with
  | add x =>
    rw [step_add, step_add, hp, hfind]
    split
    · exact ⟨rfl, by simp only [addResult, hj], hh, hp, hperm.append_right _⟩
    · exact ⟨rfl, hj, hh, hp, hperm⟩
  | bar x =>
    rw [step_bar, step_bar]
    have hba : barAllowed a x ↔ barAllowed b x := by unfold barAllowed; rw [hp, hh]
    by_cases hb : barAllowed b x
    · rw [if_pos (hba.2 hb), if_pos hb]
      exact ⟨rfl, by simp only [barResult, hj], by simp only [barResult, hh], by simp only [barResult, hp], hperm⟩
    · rw [if_neg (fun h => hb (hba.1 h)), if_neg hb]
      exact ⟨rfl, hj, hh, hp, hperm⟩
  | trial x t =>
    simp only [step, hfind]
    cases hf : b.find x with
    | none => exact ⟨rfl, hj, hh, hp, hperm⟩
    | some j =>
      simp only
      have hta : trialAllowed a j = trialAllowed b j := by unfold trialAllowed; rw [hp]
      rw [hta, hh]
      split
      · exact ⟨rfl, hj, hh, hp, hperm⟩
      · split
        · exact ⟨rfl, hj, hh, hp, hperm⟩
        · split
          · exact ⟨rfl, hj, hh, hp, hperm⟩
          · next j' _ =>
            refine ⟨rfl, ?_⟩
            exact rank_same _ _ (logTrial_WF a hw x t j') ⟨by simp only [Comp.update, hj], hh, hp, hperm⟩

end AthlibVerif.HJ
