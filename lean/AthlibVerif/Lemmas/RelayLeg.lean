import AthlibVerif.Lemmas.DistTotal
import AthlibVerif.Lemmas.MatchWords
import AthlibVerif.Lemmas.Greedy
/-!
# From the evaluated checkers to `CodeFacts`

What `Checks/Codes.lean` decides of the alphabet and of the regenerated patterns, read as the facts about characters and
strings the walk through `get_distance` uses (`CodeFacts.of_checks`).  The leading-number patterns are `\d+` and `\d+\.\d*`
and the engine is greedy (`Lemmas/Greedy`), so they take the longest prefix `\d+(\.\d*)?` (`leadingEnd_eq`).  The leg of a
relay (`100H`, `1.5K`, `RELAY`, `DMR`, …) always takes part in the match and contains no white space and no `x` / `X`, and
every relay code contains one: the upper-cased leg has a token, is that token, and is not itself a relay; it is a number with
an optional unit letter or one of six names (`relay_leg_shape`).
-/
namespace AthlibVerif
namespace Codes
open RE GRE

theorem exists_nonspace {p : RE} (hp : RE.emptyK Gen.nsym 100000 (RE.and p spaceStar) = true) {d : Str}
    (hd : Matches p d) : ∃ c ∈ d, isSpaceC c = false := by
  apply Classical.byContradiction
  intro hno
  -- otherwise `d` is all white space, hence a word of `p ∩ \s*`, which is empty
  have hall : ∀ c ∈ d, isSpaceC c = true := fun c hc => Bool.of_not_eq_false fun hs => hno ⟨c, hc, hs⟩
  exact Matches.disjointK hp d ⟨hd, (matches_star_cls Gen.spaceMask d).2 hall⟩

theorem leadingOK_spec (h : leadingOK = true) :
    isDigitU '.' = false ∧ ∀ c, Gen.dotMask.testBit (symOf c) = true ↔ c = '.' := by
  simp only [leadingOK, Bool.and_eq_true, beq_iff_eq, Bool.not_eq_true'] at h
  obtain ⟨⟨⟨_, hsing⟩, hdm⟩, hnd⟩ := h
  exact ⟨hnd, fun c => hdm ▸ testBit_two_pow_symOf '.' hsing c⟩

theorem runL_symsOf (t : Str) : runL Gen.digitMask (symsOf t) = (t.takeWhile isDigitU).length := by
  induction t with
  | nil => rfl
  | cons c cs ih =>
    have hb : Gen.digitMask.testBit (symOf c) = isDigitU c := rfl
    simp only [symsOf, List.map_cons, runL, List.takeWhile_cons, hb]
    cases isDigitU c <;> simp [← ih, symsOf]

theorem run_symsOf (t : Str) (i : Nat) : run Gen.digitMask (symsOf t) i = ((t.drop i).takeWhile isDigitU).length := by
  rw [← runL_symsOf]
  simp [run, symsOf, List.map_drop]

/-- The leading-number patterns take the longest prefix `\d+(\.\d*)?`: the engine tries the longest digit run first and
    inside the run no point can follow, so the float pattern matches exactly when the point comes right after the run,
    and then takes all digits behind it. -/
theorem leadingEnd_eq (hS : leadingShapeOK = true) (hL : leadingOK = true) (d : Str) : leadingEnd d = numEnd d := by
  simp only [leadingShapeOK, Bool.and_eq_true, beq_iff_eq, List.all_eq_true, List.mem_range, Bool.not_eq_true',
    Bool.and_eq_false_iff, decide_eq_true_eq] at hS
  obtain ⟨⟨⟨hD, hF⟩, hdisj⟩, hbound⟩ := hS
  have hdj : ∀ x, Gen.digitMask.testBit x = true → Gen.dotMask.testBit x = false := by
    intro x hx
    by_cases hlt : x < Gen.nsym + 1
    · rcases hdisj x hlt with h | h
      · rw [h] at hx; cases hx
      · exact h
    · have : Gen.digitMask.testBit x = false :=
        Nat.testBit_lt_two_pow (Nat.lt_of_lt_of_le hbound (Nat.pow_le_pow_right (by omega) (by omega)))
      rw [this] at hx; cases hx
  have hrun := run_symsOf d 0
  simp only [List.drop_zero] at hrun
  unfold leadingEnd pyMatchEnd numEnd
  rw [hD, hF]
  cases hn : run Gen.digitMask (symsOf d) 0 with
  | zero =>
    rw [matchFirst_floatG_none _ _ _ hn, matchFirst_plusG_none _ _ hn]
    simp [← hrun, hn]
  | succ r =>
    have hget : (symsOf d)[r + 1]? = (d[r + 1]?).map symOf := by simp [symsOf]
    rw [matchFirst_floatG _ _ _ hdj r hn, matchFirst_plusG _ _ r hn, ← hrun, hn, run_symsOf, hget]
    cases hc : d[r + 1]? with
    | none => simp [hc]
    | some c =>
      by_cases hdot : c = '.'
      · simp [hc, hdot, ((leadingOK_spec hL).2 '.').2 rfl]
      · have : Gen.dotMask.testBit (symOf c) = false :=
          Bool.of_not_eq_true fun h => hdot (((leadingOK_spec hL).2 c).1 h)
        simp [hc, this, hdot]

theorem upperC_cases (c : Char) : upperC c = c ∨ ∃ k, k < 26 ∧ c = Char.ofNat (97 + k) := by
  cases h : (97 ≤ c.toNat && c.toNat ≤ 122) with
  | false => left; unfold upperC; simp [h]
  | true =>
    simp only [Bool.and_eq_true, decide_eq_true_eq] at h
    refine .inr ⟨c.toNat - 97, by omega, ?_⟩
    rw [show 97 + (c.toNat - 97) = c.toNat by omega, Char.ofNat_toNat]

theorem testBit_maskOf_filter (p : Nat → Bool) (x : Nat) :
    (maskOf ((List.range (Gen.nsym + 1)).filter p)).testBit x = true ↔ x ≤ Gen.nsym ∧ p x = true := by
  rw [testBit_maskOf]
  simp only [List.contains_eq_mem, List.mem_filter, List.mem_range, decide_eq_true_eq, Nat.lt_succ_iff]

theorem noX_chars (t : Str) (h : Matches noX t) : ∀ c ∈ t, c ≠ 'x' ∧ c ≠ 'X' := by
  intro c hc
  have := (matches_star_cls _ t).1 h c hc
  simp only [noXMask, testBit_maskOf_filter, Bool.and_eq_true, bne_iff_ne, ne_eq] at this
  exact ⟨fun e => this.2.1 (by rw [e]), fun e => this.2.2 (by rw [e])⟩

theorem lang_noX (hsx : singletonSym 'x' = true) (hsX : singletonSym 'X' = true) (t : Str)
    (h : ∀ c ∈ t, c ≠ 'x' ∧ c ≠ 'X') : Matches noX t := by
  refine (matches_star_cls _ t).2 fun c hc => ?_
  simp only [noXMask, testBit_maskOf_filter, Bool.and_eq_true, bne_iff_ne, ne_eq]
  exact ⟨symOfNat_le _, fun e => (h c hc).1 (eq_of_symOf_eq 'x' hsx c e), fun e => (h c hc).2 (eq_of_symOf_eq 'X' hsX c e)⟩

theorem solid_chars (t : Str) (h : Matches solid t) : t ≠ [] ∧ ∀ c ∈ t, isSpaceC c = false := by
  obtain ⟨hne, hall⟩ := (matches_plusCls _ t).1 h
  refine ⟨hne, fun c hc => ?_⟩
  have := hall c hc
  simp only [solidMask, testBit_maskOf_filter, Bool.not_eq_true'] at this
  exact this.2

/-- `digits [. digits] [hHMK]` upper-cased: the digits stay (no lower-case letter is one), the unit letter becomes `H`, `M`, `K` -/
theorem numLeg_shape (hdot : ∀ c, Gen.dotMask.testBit (symOf c) = true ↔ c = '.')
    (hunit : ∀ c ∈ ['h', 'H', 'M', 'K'], singletonSym c = true)
    (hlow : ∀ k, k < 26 → isDigitU (Char.ofNat (97 + k)) = false) (t : Str) (h : Matches numLeg t) : NumLeg (upper t) := by
  have hup : ∀ D : Str, (∀ c ∈ D, isDigitU c = true) → upper D = D := by
    intro D hD
    refine (List.map_congr_left fun c hc => ?_).trans (List.map_id' D)
    rcases upperC_cases c with h | ⟨k, hk, rfl⟩
    · exact h
    · have := hlow k hk
      rw [hD _ hc] at this; cases this
  obtain ⟨D1, r, rfl, hD1m, hr⟩ := (matches_cat _ _ t).1 h
  obtain ⟨F, S, rfl, hfrac, hsfx⟩ := (matches_cat _ _ r).1 hr
  obtain ⟨hne1, hD1⟩ := (matches_plusCls _ D1).1 hD1m
  have hS : upper S = [] ∨ upper S = ['H'] ∨ upper S = ['M'] ∨ upper S = ['K'] := by
    rcases hsfx with he | hc
    · left
      rw [(matches_eps S).1 he]; rfl
    · obtain ⟨a, rfl, hxb⟩ := (matches_cls _ S).1 hc
      unfold sfxMask at hxb
      rw [testBit_maskOf] at hxb
      simp only [List.contains_eq_mem, List.mem_cons, List.mem_nil_iff, or_false, decide_eq_true_eq] at hxb
      rcases hxb with e | e | e | e
      · right; left; rw [eq_of_symOf_eq 'h' (hunit 'h' (by simp)) a e]; decide
      · right; left; rw [eq_of_symOf_eq 'H' (hunit 'H' (by simp)) a e]; decide
      · right; right; left; rw [eq_of_symOf_eq 'M' (hunit 'M' (by simp)) a e]; decide
      · right; right; right; rw [eq_of_symOf_eq 'K' (hunit 'K' (by simp)) a e]; decide
  rcases hfrac with he | hf
  · rw [(matches_eps F).1 he]
    refine ⟨D1, [], upper S, hne1, hD1, by simp, hS, .inl ?_⟩
    have h1 := hup D1 hD1
    simp only [upper] at h1 ⊢
    simp only [List.nil_append, List.map_append, h1]
  · obtain ⟨c, D2, rfl, hxb, hd2⟩ := (matches_cls_cat _ _ F).1 hf
    have hcd : c = '.' := (hdot c).1 hxb
    subst hcd
    obtain ⟨hne2, hD2⟩ := (matches_plusCls _ D2).1 hd2
    have hpt : upperC '.' = '.' := by decide
    refine ⟨D1, D2, upper S, hne1, hD1, hD2, hS, .inr ⟨hne2, ?_⟩⟩
    have h1 := hup D1 hD1
    have h2 := hup D2 hD2
    simp only [upper] at h1 h2 ⊢
    simp only [List.map_append, List.map_cons, hpt, h1, h2, List.cons_append]

/-- The leg group always takes part and its bodies have no `$`; they lie in `noX ∩ solid` (`relayLegOK`) and in the two
    shapes (`legShapeOK`); upper-casing neither makes nor removes white space, yields `X` only from `x` / `X`, never `x`. -/
theorem relay_leg_shape (hL : leadingOK = true) (hO : relayLegOK = true) (hG : legShapeOK = true) (d : Str) (rc : Caps)
    (hm : pyMatch "PAT_RELAYS" d = some rc) :
    ∃ t, group d rc 2 = some t ∧ upper t ≠ [] ∧ (∀ c ∈ upper t, isSpaceC c = false ∧ c ≠ 'x' ∧ c ≠ 'X') ∧
      (NumLeg (upper t) ∨ upper t ∈ legNames) := by
  simp only [relayLegOK, Bool.and_eq_true, List.all_eq_true, List.mem_range, Bool.not_eq_true', bne_iff_ne, ne_eq,
    Bool.or_eq_true, beq_iff_eq] at hO
  obtain ⟨⟨⟨_, hmand⟩, hbodies⟩, hletters⟩ := hO
  simp only [legShapeOK, Bool.and_eq_true, List.all_eq_true, List.mem_range, Bool.not_eq_true'] at hG
  obtain ⟨⟨⟨hnames, hunit⟩, hlow⟩, hshape⟩ := hG
  obtain ⟨t, hg⟩ := group_mandatory_one "PAT_RELAYS" 2 hmand d rc hm
  have hsub := group_matches_of "PAT_RELAYS" 2 (RE.and noX solid)
    (fun b hb _ => Matches.subsetK (hbodies b hb).2) hm hg
  have hx := noX_chars t hsub.1
  obtain ⟨htne, hsp⟩ := solid_chars t hsub.2
  refine ⟨t, hg, by simpa [upper] using htne, ?_, ?_⟩
  · intro c hc
    simp only [upper, List.mem_map] at hc
    obtain ⟨a, ha, rfl⟩ := hc
    rcases upperC_cases a with h | ⟨k, hk, rfl⟩
    · rw [h]; exact ⟨hsp a ha, hx a ha⟩
    · obtain ⟨⟨⟨_, h2⟩, h3⟩, h4⟩ := hletters k hk
      refine ⟨h2, h3, fun hX => ?_⟩
      rcases h4 with h4 | h4
      · exact h4 hX
      · subst h4; exact (hx _ ha).1 rfl
  · have hshp : Matches (.alt numLeg (namesRE legNames)) t :=
      group_matches_of "PAT_RELAYS" 2 _
        (fun b hb _ => Matches.subsetK (hshape b hb)) hm hg
    rcases hshp with hnum | hname
    · exact .inl (numLeg_shape (leadingOK_spec hL).2 hunit hlow t hnum)
    · obtain ⟨w, hw, hlw⟩ := lang_alts (f := ciWord) (r := namesRE) rfl (fun _ _ => rfl) legNames _ hname
      have hupw : upper t = w := by
        apply lang_ciWord w _ t hlw
        intro c hc
        have := hnames w hw c hc
        exact ⟨by simpa using this.1.1, this.1.2, this.2⟩
      exact .inr (hupw ▸ hw)

theorem not_relay_of_noX (hO : relayLegOK = true) (hrel : tieOK (pat "PAT_RELAYS") Gen.PAT_RELAYS = true) (s : Str)
    (hx : ∀ c ∈ s, c ≠ 'x' ∧ c ≠ 'X') : pyMatch "PAT_RELAYS" s = none := by
  simp only [relayLegOK, Bool.and_eq_true] at hO
  obtain ⟨⟨⟨⟨⟨hsx, hsX⟩, hrx⟩, _⟩, _⟩, _⟩ := hO
  exact pyMatch_eq_none _ _ hrel s fun hM => Matches.disjointK hrx s ⟨hM, lang_noX hsx hsX s hx⟩

theorem CodeFacts.of_checks (hT : digitTableOK = true) (hL : leadingOK = true) (hS : leadingShapeOK = true)
    (hN : numFactsOK = true) (hO : relayLegOK = true) (hG : legShapeOK = true)
    (hrel : tieOK (pat "PAT_RELAYS") Gen.PAT_RELAYS = true)
    (hlegs : (groupDigits (pat "PAT_RELAYS") 1 && mandatory [1] (pat "PAT_RELAYS")) = true) : CodeFacts where
  int_digits := pyInt_of_digits hT
  point := (leadingOK_spec hL).1
  letters := by
    simp only [numFactsOK, Bool.and_eq_true, Bool.not_eq_true'] at hN
    obtain ⟨⟨⟨⟨⟨⟨⟨⟨⟨⟨nX, nM⟩, nH⟩, nC⟩, nK⟩, _⟩, _⟩, _⟩, _⟩, _⟩, _⟩ := hN
    simp [nX, nM, nH, nC, nK]
  leading := leadingEnd_eq hS hL
  not_relay := not_relay_of_noX hO hrel
  legs := fun s rc hm => by
    simp only [Bool.and_eq_true] at hlegs
    obtain ⟨t, hg⟩ := group_mandatory_one "PAT_RELAYS" 1 hlegs.2 s rc hm
    rw [hg]
    exact group_int hT "PAT_RELAYS" 1 hlegs.1 s rc hm t hg
  leg := relay_leg_shape hL hO hG

end Codes
end AthlibVerif
