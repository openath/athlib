import AthlibVerif.Lemmas.Places
/-!
# What a call does to the records

Under `WF` everything a call does to the athletes is a map over the records.  For `_rank` each record gets a place
and is perhaps re-instated (`Reranked`), in the same order (`rank_records`); for a whole accepted call
`Accepts.forall_records` is the one step lemma behind every invariant that speaks of one record at a time: a new
record, a record re-opened at a new height, the record of the athlete who jumped rewritten by `actCore`, every
record re-ranked.  `RU` is the invariant about places: they follow the keys (`Ranked`, Lemmas/Places) from the first
accepted trial on.
-/
namespace AthlibVerif.HJ

/-- what `_rank` can do to one record: a new place, and perhaps the way back into the competition -/
inductive Reranked (k : Jumper) : Jumper → Prop
  | place (p : Nat) : Reranked k { k with place := p }
  | back (p : Nat) : Reranked k (reinstate { k with place := p })

theorem Reranked.refl (k : Jumper) : Reranked k k := .place k.place

theorem Reranked.trans {a b c : Jumper} (h1 : Reranked a b) (h2 : Reranked b c) : Reranked a c := by
  cases h1 with
  | place =>
    cases h2 with
    | place => exact .place _
    | back => exact .back _
  | back =>
    cases h2 with
    | place => exact .back _
    | back => exact .back _

theorem Reranked.bib {k k' : Jumper} (h : Reranked k k') : k'.bib = k.bib := by
  cases h with
  | place => rfl
  | back => rfl

theorem Reranked.dismissed {k k' : Jumper} (h : Reranked k k') : k'.dismissed = k.dismissed := by
  cases h with
  | place => rfl
  | back => rfl

theorem Recalls.records {c : Comp} {js : List Jumper} (hn : (c.jumpers.map (·.bib)).Nodup) (h : Recalls c js) :
    ∃ S : Jumper → Bool, js = c.jumpers.map (fun k => if S k then reinstate k else k) := by
  cases h with
  | tie => exact ⟨_, rfl⟩
  | leader hr h2 hf => exact ⟨_, update_eq_map c hn _ _ hf reinstate rfl⟩

theorem Tail.records {c c' : Comp} (hw : WF c) (h : Tail c c') :
    (∃ f, c'.jumpers = c.jumpers.map f ∧ ∀ k, Reranked k (f k)) ∧ WF c' ∧ (Ranked c → Ranked c') := by
  cases h with
  | open_ => exact ⟨⟨id, by simp, Reranked.refl⟩, hw, id⟩
  | close => exact ⟨⟨id, by simp, Reranked.refl⟩, hw, id⟩
  | jumpoff _ h =>
    obtain ⟨S, rfl⟩ := h.records hw.1
    have hw1 : WF { c with jumpers := c.jumpers.map (fun k => if S k then reinstate k else k), phase := .jumpoff } :=
      WF_of_map c _ _ rfl (fun k => by split <;> rfl) (List.Perm.refl _) hw
    -- f k = (if S k then reinstate k else k) with the place of `rankj_jumpers`
    refine ⟨⟨_, by rw [rankj_jumpers _ hw1, List.map_map], fun k => ?_⟩, rankj_WF _ hw1, fun _ => rankj_ranked _ hw1⟩
    simp only [Function.comp_apply]
    split
    · exact .back _
    · exact .place _

theorem rank_records (c : Comp) (hw : WF c) :
    (∃ f, (rank c).jumpers = c.jumpers.map f ∧ ∀ k, Reranked k (f k)) ∧ WF (rank c) ∧ Ranked (rank c) := by
  obtain ⟨⟨f, hf, hr⟩, hw', hr'⟩ := (rankTail_cases (rankj c)).records (rankj_WF c hw)
  -- first `rankj` places, then the tail re-ranks
  refine ⟨⟨_, by rw [rank_eq_tail, hf, rankj_jumpers c hw, List.map_map], fun k => ?_⟩, hw', hr' (rankj_ranked c hw)⟩
  exact (Reranked.place _).trans (hr _)

theorem logTrial_records (c : Comp) (hw : WF c) (b : Nat) (t : Trial) (j : Jumper) (hf : c.find b = some j)
    (g : Jumper → Jumper) (hg : ∀ k, (g k).bib = k.bib) :
    (logTrial c b t (g j)).jumpers = c.jumpers.map (fun k => if k.bib == b then g k else k) ∧
    WF (logTrial c b t (g j)) :=
  ⟨update_eq_map c hw.1 b j hf g (hg j), logTrial_WF c hw b t (g j)⟩

theorem filter_map_sub {α : Type} (p : α → Bool) (F : α → α) (l : List α) (h : ∀ k ∈ l, p (F k) = true → p k = true) :
    (l.map F).filter p = ((l.filter p).map F).filter p := by
  rw [List.filter_map, List.filter_map, List.filter_filter]
  refine congrArg _ (List.filter_congr (fun k hk => ?_))
  cases hpf : (p ∘ F) k with
  | false => simp
  | true => simp [h k hk hpf]

/-- What `Decided.accepts` and `WonInv.accepts` need of the state an accepted trial hands to the tail of `_rank` (the
    mark entered, the places assigned): its records are those of `c` under `F`, and whoever is in was in. -/
theorem alive_rankj_logTrial (c : Comp) (hw : WF c) (b : Nat) (t : Trial) (j : Jumper) (hf : c.find b = some j)
    (he : j.eliminated = false) (g : Jumper → Jumper) (hg : ∀ k, (g k).bib = k.bib) :
    ∃ F : Jumper → Jumper, (rankj (logTrial c b t (g j))).jumpers = c.jumpers.map F ∧ WF (logTrial c b t (g j)) ∧
      (∀ k, ∃ p, F k = { (if k.bib == b then g k else k) with place := p }) ∧
      (rankj (logTrial c b t (g j))).alive = (c.alive.map F).filter (fun j => !j.eliminated) := by
  obtain ⟨hu, hwl⟩ := logTrial_records c hw b t j hf g hg
  rw [Comp.alive, rankj_jumpers _ hwl, hu, List.map_map]
  refine ⟨_, rfl, hwl, fun k => ⟨_, rfl⟩, ?_⟩
  refine filter_map_sub (fun j : Jumper => !j.eliminated) _ c.jumpers (fun k hk hke => ?_)
  change (!(if k.bib == b then g k else k).eliminated) = true at hke
  split at hke
  · next e =>
    rw [eq_of_find c hw.1 hf hk e, he]
    rfl
  · exact hke

theorem trialResult_records (c : Comp) (hw : WF c) (b : Nat) (t : Trial) (j : Jumper) (hf : c.find b = some j)
    (g : Jumper → Jumper) (hg : ∀ k, (g k).bib = k.bib) :
    (∃ f : Jumper → Jumper, (trialResult c b t (g j)).jumpers = c.jumpers.map (fun k => f (if k.bib == b then g k else k)) ∧
      ∀ k, Reranked k (f k)) ∧ WF (trialResult c b t (g j)) ∧ Ranked (trialResult c b t (g j)) := by
  obtain ⟨hu, hwl⟩ := logTrial_records c hw b t j hf g hg
  obtain ⟨⟨f, hf', hr⟩, hw', hr'⟩ := rank_records _ hwl
  exact ⟨⟨f, by rw [trialResult, hf', hu, List.map_map]; rfl, hr⟩, hw', hr'⟩

theorem Accepts.wf {c c' : Comp} {op : Op} (hw : WF c) (h : Accepts c op c') : WF c' := by
  cases h with
  | add b hp hf =>
    unfold WF addResult
    simp only [List.map_append, List.map_cons, List.map_nil]
    refine ⟨?_, hw.2.append_right _⟩
    rw [List.nodup_append]
    refine ⟨hw.1, by simp, ?_⟩
    intro a ha b' hb' e
    simp only [List.mem_singleton] at hb'
    subst hb' e
    exact find_none_not_mem c _ hf ha
  | bar x hb => exact WF_of_map c _ _ (barResult_jumpers c x) (fun _ => rfl) (List.Perm.refl _) hw
  | trial b t j hf => exact (trialResult_records c hw b t j hf _ (fun k => actCore_bib k _ _ t)).2.1

theorem step_WF (c : Comp) (op : Op) (h : WF c) : WF (step c op).1 :=
  step_preserves op h (fun _ => Accepts.wf h)

/-- The step lemma for an invariant `P` that speaks of one record at a time (given the heights and the log): one
    hypothesis for each thing an accepted call does to a record. -/
theorem Accepts.forall_records_log {P : List Int → List Op → Jumper → Prop} {c c' : Comp} {op : Op} (hw : WF c)
    (ha : Accepts c op c')
    (new : ∀ b p, c.find b = none → P c.heights (c.log ++ [.add b]) { bib := b, place := p })
    (add : ∀ b, c.find b = none → ∀ k ∈ c.jumpers, P c.heights c.log k → P c.heights (c.log ++ [.add b]) k)
    (bar : ∀ x, ∀ k ∈ c.jumpers, P c.heights c.log k →
      P (c.heights ++ [x]) (c.log ++ [.bar x]) { k with dismissed := k.eliminated && k.dismissed })
    (act : ∀ t, ∀ k ∈ c.jumpers, c.heights ≠ [] → k.eliminated = false → k.dismissed = false →
      ((padCard k.card c.heights.length).getLast?.getD []).length < k.roundLim → P c.heights c.log k →
      P c.heights (c.log ++ [.trial k.bib t]) (k.actCore c.heights.length (c.heights.getLast?.getD 0) t))
    (other : ∀ b t, ∀ k ∈ c.jumpers, k.bib ≠ b → P c.heights c.log k → P c.heights (c.log ++ [.trial b t]) k)
    (rerank : ∀ lg k k', Reranked k k' → P c.heights lg k → P c.heights lg k')
    (h : ∀ j ∈ c.jumpers, P c.heights c.log j) : ∀ j ∈ c'.jumpers, P c'.heights c'.log j := by
  intro j' hj'
  rw [ha.log]
  cases ha with
  | add b hp hf =>
    rcases List.mem_append.1 hj' with hj | hj
    · exact add b hf j' hj (h j' hj)
    · rw [List.mem_singleton.1 hj]; exact new _ _ hf
  | bar x hb =>
    rw [barResult_jumpers] at hj'
    obtain ⟨k, hk, rfl⟩ := List.mem_map.1 hj'
    exact bar x k hk (h k hk)
  | trial b t j hf _ hh he hd hl =>
    obtain ⟨⟨f, e, hr⟩, _⟩ := trialResult_records c hw b t j hf _ (fun k => actCore_bib k _ _ t)
    rw [e] at hj'
    obtain ⟨k, hk, rfl⟩ := List.mem_map.1 hj'
    rw [trialResult_heights]
    refine rerank _ _ _ (hr _) ?_
    obtain ⟨hj, hb⟩ := find_some_mem c b j hf
    split
    · next e =>
      rw [eq_of_find c hw.1 hf hk e, ← hb]
      exact act t j hj hh he hd hl (h j hj)
    · next e => exact other b t k hk (by simpa using e) (h k hk)

/-- `forall_records_log` for a `P` that does not read the log: `add` and `other` are then trivial. -/
theorem Accepts.forall_records {P : List Int → Jumper → Prop} {c c' : Comp} {op : Op} (hw : WF c) (ha : Accepts c op c')
    (new : ∀ b p, c.find b = none → P c.heights { bib := b, place := p })
    (bar : ∀ x, ∀ k ∈ c.jumpers, P c.heights k → P (c.heights ++ [x]) { k with dismissed := k.eliminated && k.dismissed })
    (act : ∀ t, ∀ k ∈ c.jumpers, c.heights ≠ [] → k.eliminated = false → k.dismissed = false →
      ((padCard k.card c.heights.length).getLast?.getD []).length < k.roundLim → P c.heights k →
      P c.heights (k.actCore c.heights.length (c.heights.getLast?.getD 0) t))
    (rerank : ∀ k k', Reranked k k' → P c.heights k → P c.heights k')
    (h : ∀ j ∈ c.jumpers, P c.heights j) : ∀ j ∈ c'.jumpers, P c'.heights j :=
  ha.forall_records_log (P := fun hs _ j => P hs j) hw (new := new) (add := fun _ _ _ _ h => h) (bar := bar) (act := act)
    (other := fun _ _ _ _ _ h => h) (rerank := fun _ => rerank) h

def Unranked (c : Comp) : Prop := (∀ j ∈ c.jumpers, j.bestIdx = none) ∧ (c.phase = .scheduled ∨ c.phase = .started)

/-- Before the first accepted trial the places are those of the registration (1, 2, 3 … on equal keys), not `Ranked`:
    `Unranked` is what holds until then. -/
def RU (c : Comp) : Prop := Unranked c ∨ (Ranked c ∧ c.phase ≠ .scheduled)

theorem barResult_ranked (c : Comp) (x : Int) (h : Ranked c) : Ranked (barResult c x) := by
  intro j' hj'
  rw [barResult_jumpers] at hj' ⊢
  obtain ⟨j, hj, rfl⟩ := List.mem_map.1 hj'
  rw [List.filter_map, List.length_map]
  -- the bar rewrites only `dismissed`, which neither `key` nor `place` reads
  exact h j hj

theorem RU.accepts {c c' : Comp} {op : Op} (hw : WF c) (h : RU c) (ha : Accepts c op c') : RU c' := by
  cases ha with
  | add b hp hf =>
    rcases h with h | h
    · refine Or.inl ⟨fun j hj => ?_, Or.inl hp⟩
      rcases List.mem_append.1 hj with hj | hj
      · exact h.1 j hj
      · rw [List.mem_singleton.1 hj]
    · exact absurd hp h.2
  | bar x hb =>
    rcases h with h | h
    · refine Or.inl ⟨fun j' hj' => ?_, ?_⟩
      · rw [barResult_jumpers] at hj'
        obtain ⟨j, hj, rfl⟩ := List.mem_map.1 hj'
        exact h.1 j hj
      · rw [barResult_phase]
        split
        · exact Or.inr rfl
        · next hs => exact Or.inr (h.2.resolve_left hs)
    · refine Or.inr ⟨barResult_ranked c x h.1, ?_⟩
      rw [barResult_phase, if_neg h.2]; exact h.2
  | trial b t j hf hta =>
    exact Or.inr ⟨(trialResult_records c hw b t j hf _ (fun k => actCore_bib k _ _ t)).2.2,
      trialResult_ne_scheduled b t _ hta⟩

end AthlibVerif.HJ
