import AthlibVerif.Model.Uka
import AthlibVerif.Lemmas.Cal
/-!
Ages: the spec age `Spec.ageOn` is the floor age `floorYears`, which `Spec.Aged` characterises by
anniversaries; the cut-off of `prior_date` is the last 31 August on or before the day.

Decision lists: the two functions and the two rules are one list of thresholds, `ladder`, fed with
different ages (track and field: 31 August, 31 August, 31 December, the day; road and cross country:
the day, the cut-off, the cut-off, the day).  The functions walk it from the youngest group up
(`tfOfAges_eq_ladder`, `xcOfAges_eq_ladder`), the rules from the masters down (`ladderDown`, which is
`Spec.list107` and `Spec.listRoadXc` by unfolding); `ladderDown_eq_ladder` turns one walk into the
other.  What C13 needs of a list (monotone in the ages, blind to ages below zero) is proved once, for
`ladder`, one rung at a time.
-/
namespace AthlibVerif.Uka
open AthlibVerif.Cal

theorem ageOn_eq_floorYears (b on : Date) (hb : b.valid) (ho : on.valid) :
    Spec.ageOn b on = floorYears b on := by
  have := (daysIn_bounds b.y b.m).2
  have := (daysIn_bounds on.y on.m).2
  have := bday_le b on.y
  unfold Date.valid at hb ho
  show ((on.y * 10000 + on.m * 100 + on.d) - (b.y * 10000 + b.m * 100 + bday b on.y)) / 10000 = _
  unfold floorYears
  split <;> omega

theorem floorYears_neg (b on : Date) (hb : b.valid) (h : ¬ b.le on) : floorYears b on < 0 := by
  have := (floorYears_bounds b on).2
  by_cases hy : on.y = b.y
  · have := bday_self hb
    unfold floorYears Date.le at *
    rw [hy]
    split <;> omega
  · unfold Date.le at h
    omega

theorem anniv_eq (b : Date) (n : Int) : Spec.anniv b n = ⟨b.y + n, b.m, bday b (b.y + n)⟩ := rfl

/-- of the two anniversaries only the one that falls in the year of `on` is compared with `on` by month and day -/
theorem floorYears_iff_aged (b on : Date) (n : Int) :
    Spec.Aged b on n ↔ floorYears b on = n := by
  have := floorYears_bounds b on
  unfold Spec.Aged Date.le Date.lt
  rw [anniv_eq, anniv_eq]
  dsimp only
  by_cases h1 : on.y = b.y + n
  · rw [← h1]
    unfold floorYears
    split <;> omega
  · by_cases h2 : on.y = b.y + (n + 1)
    · rw [← h2]
      unfold floorYears
      split <;> omega
    · omega

theorem ageOn_iff_aged (b on : Date) (n : Int) (hb : b.valid) (ho : on.valid) :
    Spec.Aged b on n ↔ Spec.ageOn b on = n := by
  rw [ageOn_eq_floorYears b on hb ho]
  exact floorYears_iff_aged b on n

theorem aug31_valid (y : Int) : (⟨y, 8, 31⟩ : Date).valid := by simp [Date.valid, daysIn]
theorem dec31_valid (y : Int) : (⟨y, 12, 31⟩ : Date).valid := by simp [Date.valid, daysIn]

theorem floor_tf_facts (b md : Date) (hm : md.valid) :
    floorYears b ⟨md.y, 12, 31⟩ ≤ floorYears b ⟨md.y, 8, 31⟩ + 1 ∧
    floorYears b md ≤ floorYears b ⟨md.y, 12, 31⟩ := by
  constructor
  · have h1 := floorYears_bounds b ⟨md.y, 12, 31⟩
    have h2 := floorYears_bounds b ⟨md.y, 8, 31⟩
    dsimp only at h1 h2
    omega
  · apply floorYears_mono_on b md ⟨md.y, 12, 31⟩
    have := (daysIn_bounds md.y md.m).2
    unfold Date.valid at hm
    unfold Date.le
    dsimp only
    omega

theorem priorDate_eq_lastAug31 (md : Date) (hm : md.valid) : priorDate md 8 31 = Spec.lastAug31 md := by
  have := (daysIn_bounds md.y md.m).2
  unfold Date.valid at hm
  have key : md.lt ⟨md.y, 8, 31⟩ ↔ ¬ (md.m ≥ 9 ∨ (md.m = 8 ∧ md.d = 31)) := by
    unfold Date.lt
    dsimp only
    omega
  unfold priorDate Spec.lastAug31
  dsimp only
  by_cases h : md.m ≥ 9 ∨ (md.m = 8 ∧ md.d = 31)
  · rw [if_pos h, if_neg (fun c => key.1 c h)]
  · rw [if_neg h, if_pos (key.2 h)]

theorem lastAug31_valid (md : Date) : (Spec.lastAug31 md).valid := by
  unfold Spec.lastAug31
  split <;> exact aug31_valid _

theorem floor_xc_facts (b md : Date) (hb : b.valid) (hm : md.valid) :
    floorYears b (Spec.lastAug31 md) ≤ floorYears b md ∧
    floorYears b md ≤ floorYears b (Spec.lastAug31 md) + 1 := by
  have dm := (daysIn_bounds md.y md.m).2
  have db := (daysIn_bounds b.y b.m).2
  unfold Date.valid at hm hb
  constructor
  · apply floorYears_mono_on b _ md
    unfold Spec.lastAug31 Date.le
    split <;> dsimp only <;> omega
  · unfold Spec.lastAug31
    split
    · have h1 := floorYears_bounds b md
      have h2 := floorYears_bounds b ⟨md.y, 8, 31⟩
      dsimp only at h1 h2
      omega
    · -- the day lies before 31 August: who still waits for the birthday on 31 August of the year
      -- before was born in September–December, and still waits on the day
      have := bday_le b (md.y - 1)
      unfold floorYears
      dsimp only
      split <;> split <;> omega

def ladder (x y z w : Int) (v u : Bool) : Group :=
  if u ∧ x < 9 then .u9 else if x < 11 then .u11 else if y < 13 then .u13 else if y < 15 then .u15
  else if y < 17 then .u17 else if z < 20 then .u20 else if v ∧ 35 ≤ w then .vet (vetBand w) else .sen

/-- the same list read from the top, as Rules 107 / 207 / 507 are written -/
def ladderDown (x y z w : Int) (v u : Bool) : Group :=
  if v ∧ 35 ≤ w then .vet (Spec.mastersBand w) else if 20 ≤ z then .sen else if 17 ≤ y then .u20
  else if 15 ≤ y then .u17 else if 13 ≤ y then .u15 else if 11 ≤ x then .u13
  else if u ∧ x < 9 then .u9 else .u11

theorem list107_eq (s8 s12 sD : Int) (v u : Bool) :
    Spec.list107 s8 s12 sD v u = ladderDown s8 s8 s12 sD v u := rfl
theorem listRoadXc_eq (s8 sD : Int) (v u : Bool) :
    Spec.listRoadXc s8 sD v u = ladderDown sD s8 s8 sD v u := rfl

theorem rung_congr {α} {p q : Prop} [Decidable p] [Decidable q] {g r r' : α} (h : p ↔ q) (hr : ¬ q → r = r') :
    (if p then g else r) = if q then g else r' :=
  ite_congr (propext h) (fun _ => rfl) hr

/-- the last three lines of both functions are the top rung -/
theorem top_eq (aD : Int) (v : Bool) (g : Group) :
    (if aD < 35 then .sen else if v then g else .sen) = if v ∧ 35 ≤ aD then g else .sen := by
  by_cases h : aD < 35
  · rw [if_pos h, if_neg (fun c => by omega)]
  · rw [if_neg h]
    simp only [show 35 ≤ aD by omega, and_true]

theorem tfOfAges_eq_ladder (a8 a12 aD : Int) (v u : Bool) :
    tfOfAges a8 a12 aD v u = ladder a8 a8 a12 aD v u :=
  -- each `fun _` binds "the rung below failed" (`¬ a8 < 11`, …); with it omega reads `a8 = 11 ∨ a8 = 12` as `a8 < 13`
  rung_congr Iff.rfl fun _ => rung_congr Iff.rfl fun _ => rung_congr (by omega) fun _ =>
    rung_congr (by omega) fun _ => rung_congr (by omega) fun _ => rung_congr Iff.rfl fun _ => top_eq ..

/-- `rule507_agegroups_crosscountry` has no branch for an athlete under 10 on the cut-off and 11 on the
    day (no real dates give that): such ages fall through to the seniors, as if 20 on the cut-off -/
def xcCut (a8 : Int) : Int := if a8 < 10 then 20 else a8

theorem xcOfAges_eq_ladder_xcCut (a8 aD : Int) (v u : Bool) :
    xcOfAges a8 aD v u = ladder aD (xcCut a8) (xcCut a8) aD v u := by
  have : (a8 < 10 ∧ xcCut a8 = 20) ∨ (10 ≤ a8 ∧ xcCut a8 = a8) := by
    unfold xcCut
    split <;> omega
  -- each `fun _` binds "the rung below failed"; with it and `this` omega reads `a8 = 13 ∨ a8 = 14` as `xcCut a8 < 15`
  exact rung_congr Iff.rfl fun _ => rung_congr Iff.rfl fun _ => rung_congr (by omega) fun _ =>
    rung_congr (by omega) fun _ => rung_congr (by omega) fun _ => rung_congr (by omega) fun _ => top_eq ..

theorem xcOfAges_eq_ladder (a8 aD : Int) (v u : Bool) (hrel : 11 ≤ aD → 10 ≤ a8) :
    xcOfAges a8 aD v u = ladder aD a8 a8 aD v u := by
  rw [xcOfAges_eq_ladder_xcCut]
  by_cases h : aD < 11
  · -- under 11 on the day the list stops before it looks at the cut-off age
    unfold ladder
    rw [if_pos h, if_pos h]
  · rw [xcCut, if_neg (by omega)]

theorem mastersBand_eq (a : Int) : Spec.mastersBand a = vetBand a := by
  unfold Spec.mastersBand vetBand
  rw [Int.mul_comm]

/-- each threshold of the rules implies the one below it (`hwz`, `hzy`, `hyx`), so in each clause of the rule the rungs
    below it fail -/
theorem ladderDown_eq_ladder {x y z w : Int} (v u : Bool) (hwz : 35 ≤ w → 20 ≤ z) (hzy : 20 ≤ z → 17 ≤ y)
    (hyx : 13 ≤ y → 11 ≤ x) : ladderDown x y z w v u = ladder x y z w v u := by
  unfold ladderDown
  by_cases h7 : v = true ∧ 35 ≤ w
  · rw [if_pos h7, ladder, if_neg, if_neg, if_neg, if_neg, if_neg, if_neg, if_pos h7, mastersBand_eq] <;> omega
  rw [if_neg h7]
  by_cases h6 : 20 ≤ z
  · rw [if_pos h6, ladder, if_neg, if_neg, if_neg, if_neg, if_neg, if_neg, if_neg h7] <;> omega
  rw [if_neg h6]
  by_cases h5 : 17 ≤ y
  · rw [if_pos h5, ladder, if_neg, if_neg, if_neg, if_neg, if_neg, if_pos] <;> omega
  rw [if_neg h5]
  by_cases h4 : 15 ≤ y
  · rw [if_pos h4, ladder, if_neg, if_neg, if_neg, if_neg, if_pos] <;> omega
  rw [if_neg h4]
  by_cases h3 : 13 ≤ y
  · rw [if_pos h3, ladder, if_neg, if_neg, if_neg, if_pos] <;> omega
  rw [if_neg h3]
  by_cases h2 : 11 ≤ x
  · rw [if_pos h2, ladder, if_neg, if_neg, if_pos] <;> omega
  rw [if_neg h2]
  by_cases h1 : u = true ∧ x < 9
  · rw [if_pos h1, ladder, if_pos h1]
  · rw [if_neg h1, ladder, if_neg h1, if_pos]
    omega

/-- dateutil's age `a` and the spec's `a'` agree or are both non-positive: no positive threshold
    separates them -/
theorem agree_lt {a a' : Int} (h : a = a' ∨ (a ≤ 0 ∧ a' < 0)) (t : Int) (ht : 0 < t := by decide) :
    a < t ↔ a' < t := by omega

theorem ladder_congr {x y z w x' y' z' w' : Int} (v u : Bool)
    (hx : x = x' ∨ (x ≤ 0 ∧ x' < 0)) (hy : y = y' ∨ (y ≤ 0 ∧ y' < 0)) (hz : z = z' ∨ (z ≤ 0 ∧ z' < 0))
    (hw : w = w' ∨ (w ≤ 0 ∧ w' < 0)) : ladder x y z w v u = ladder x' y' z' w' v u := by
  refine rung_congr (and_congr_right fun _ => agree_lt hx 9) fun _ => rung_congr (agree_lt hx 11) fun _ =>
    rung_congr (agree_lt hy 13) fun _ => rung_congr (agree_lt hy 15) fun _ => rung_congr (agree_lt hy 17) fun _ =>
    rung_congr (agree_lt hz 20) fun _ => ?_
  rcases hw with rfl | hw
  · rfl
  · rw [if_neg (fun c => by omega), if_neg (fun c => by omega)]

theorem vetBand_mono {a a' : Int} (h : a ≤ a') : vetBand a ≤ vetBand a' := by
  unfold vetBand
  omega

/-- one rung of a youngest-first decision list, for two inputs at once: if the older input stops here
    so does the younger (`hqp`); the second component carries the lower bound `k` on whatever the older
    input can still get, which the rung above needs -/
theorem rung_mono {k : Nat} {p q : Prop} [Decidable p] [Decidable q] {g r r' : Group}
    (hg : g.rank = k) (hqp : q → p) (h : r.rank ≤ r'.rank ∧ k + 1 ≤ r'.rank) :
    (if p then g else r).rank ≤ (if q then g else r').rank ∧ k ≤ (if q then g else r').rank := by
  by_cases hq : q
  · rw [if_pos hq, if_pos (hqp hq), hg]
    exact ⟨Nat.le_refl k, Nat.le_refl k⟩
  · rw [if_neg hq]
    refine ⟨?_, Nat.le_of_succ_le h.2⟩
    split
    · rw [hg]
      exact Nat.le_of_succ_le h.2
    · exact h.1

theorem ladder_mono {x y z w x' y' z' w' : Int} (v u : Bool) (hx : x ≤ x') (hy : y ≤ y') (hz : z ≤ z')
    (hw : w ≤ w') : (ladder x y z w v u).rank ≤ (ladder x' y' z' w' v u).rank := by
  have hb := vetBand_mono hw
  refine (rung_mono rfl (fun h => ⟨h.1, by omega⟩) <| rung_mono rfl (by omega) <| rung_mono rfl (by omega) <|
    rung_mono rfl (by omega) <| rung_mono rfl (by omega) <| rung_mono rfl (by omega) ?_).1
  by_cases h : v = true ∧ 35 ≤ w
  · rw [if_pos h, if_pos ⟨h.1, by omega⟩]
    simp only [Group.rank]
    omega
  · rw [if_neg h]
    split <;> simp only [Group.rank] <;> omega

end AthlibVerif.Uka
