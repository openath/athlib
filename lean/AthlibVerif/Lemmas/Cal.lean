import AthlibVerif.Model.Cal
/-!
An age in completed years is the difference of the years, corrected by one according to where the
birthday of the year falls (`floorYears`, `truncYears`, `bday`).
Two such ages are compared through the year bounds when the dates lie in different years and through
one comparison of (month, day) pairs when they lie in the same year; only `bday_mono` and `bday_self`
look at the leap rule, and the monotonicity lemmas hold for all dates, valid or not.
-/
namespace AthlibVerif.Cal

theorem daysIn_bounds (y : Int) (m : Nat) : 28 ≤ daysIn y m ∧ daysIn y m ≤ 31 := by
  unfold daysIn
  split <;> split <;> omega

theorem daysIn_feb (y : Int) : daysIn y 2 = if isLeap y then 29 else 28 := rfl

theorem Date.le_refl (a : Date) : a.le a := by unfold Date.le; omega

theorem Date.le_trans {a b c : Date} (h1 : a.le b) (h2 : b.le c) : a.le c := by
  unfold Date.le at *; omega

theorem Date.lt_iff_not_le (a b : Date) : a.lt b ↔ ¬ b.le a := by
  unfold Date.lt Date.le; omega

theorem Date.le_of_lt {a b : Date} (h : a.lt b) : a.le b := by
  unfold Date.lt at h; unfold Date.le; omega

/-- the day of the month on which the birthday of `b` is kept in year `y`: dateutil clips 29 February
    to 28 February in a common year -/
def bday (b : Date) (y : Int) : Nat := if b.m = 2 ∧ b.d = 29 ∧ !isLeap y then 28 else b.d

theorem bday_le (b : Date) (y : Int) : bday b y ≤ b.d := by
  unfold bday
  split <;> omega

theorem bday_mono {b1 b2 : Date} (y : Int) (hm : b1.m = b2.m) (hd : b1.d ≤ b2.d) : bday b1 y ≤ bday b2 y := by
  unfold bday
  cases isLeap y
  · simp only [Bool.not_false, and_true]
    split <;> split <;> omega
  · simp only [Bool.not_true, Bool.false_eq_true, and_false, if_false]
    exact hd

theorem bday_self {b : Date} (hb : b.valid) : bday b b.y = b.d := by
  unfold bday
  split
  next h =>
    have hd := hb.2.2.2
    rw [h.1, daysIn_feb, if_neg (by simpa using h.2.2)] at hd
    omega
  next => rfl

/-- the two branches of `completedYears` -/
def floorYears (birth on : Date) : Int :=
  on.y - birth.y - (if on.m < birth.m ∨ (on.m = birth.m ∧ on.d < bday birth on.y) then 1 else 0)
def truncYears (birth on : Date) : Int :=
  on.y - birth.y + (if birth.m < on.m ∨ (birth.m = on.m ∧ birth.d < on.d) then 1 else 0)

theorem completedYears_of_le {b on : Date} (h : b.le on) : completedYears b on = floorYears b on :=
  if_pos h
theorem completedYears_of_not_le {b on : Date} (h : ¬ b.le on) : completedYears b on = truncYears b on :=
  if_neg h

theorem floorYears_bounds (b on : Date) : on.y - b.y - 1 ≤ floorYears b on ∧ floorYears b on ≤ on.y - b.y := by
  unfold floorYears
  split <;> omega

theorem truncYears_bounds (b on : Date) : on.y - b.y ≤ truncYears b on ∧ truncYears b on ≤ on.y - b.y + 1 := by
  unfold truncYears
  split <;> omega

theorem floorYears_nonneg (b on : Date) (h : b.le on) : 0 ≤ floorYears b on := by
  have := bday_le b on.y
  unfold floorYears Date.le at *
  split <;> omega

theorem truncYears_nonpos (b on : Date) (h : ¬ b.le on) : truncYears b on ≤ 0 := by
  unfold truncYears Date.le at *
  split <;> omega

theorem ind_le {p q : Prop} [Decidable p] [Decidable q] (h : p → q) :
    (if p then 1 else 0 : Int) ≤ if q then 1 else 0 := by
  by_cases hp : p
  · rw [if_pos hp, if_pos (h hp)]
    exact Int.le_refl 1
  · rw [if_neg hp]
    split <;> omega

theorem floorYears_mono_birth (b1 b2 on : Date) (h : b1.le b2) : floorYears b2 on ≤ floorYears b1 on := by
  by_cases hy : b1.y = b2.y
  · -- same year of birth: whoever still waits for the earlier birthday also waits for the later one
    have := @bday_mono b1 b2 on.y
    unfold floorYears
    rw [hy]
    apply Int.sub_le_sub_left (ind_le _)
    unfold Date.le at h
    omega
  · have := (floorYears_bounds b1 on).1
    have := (floorYears_bounds b2 on).2
    unfold Date.le at h
    omega

theorem truncYears_mono_birth (b1 b2 on : Date) (h : b1.le b2) : truncYears b2 on ≤ truncYears b1 on := by
  by_cases hy : b1.y = b2.y
  · unfold truncYears
    rw [hy]
    apply Int.add_le_add_left (ind_le _)
    unfold Date.le at h
    omega
  · have := (truncYears_bounds b1 on).1
    have := (truncYears_bounds b2 on).2
    unfold Date.le at h
    omega

/-- an earlier birth date never gives a smaller age (any reference date, dateutil's convention on both sides of it) -/
theorem completedYears_mono_birth (b1 b2 on : Date) (h : b1.le b2) :
    completedYears b2 on ≤ completedYears b1 on := by
  by_cases c2 : b2.le on
  · rw [completedYears_of_le c2, completedYears_of_le (Date.le_trans h c2)]
    exact floorYears_mono_birth b1 b2 on h
  · by_cases c1 : b1.le on
    · rw [completedYears_of_le c1, completedYears_of_not_le c2]
      exact Int.le_trans (truncYears_nonpos b2 on c2) (floorYears_nonneg b1 on c1)
    · rw [completedYears_of_not_le c1, completedYears_of_not_le c2]
      exact truncYears_mono_birth b1 b2 on h

/-- floor bounds when the birth is not after the reference date -/
theorem completedYears_bounds (b on : Date) (h : b.le on) :
    on.y - b.y - 1 ≤ completedYears b on ∧ completedYears b on ≤ on.y - b.y ∧ 0 ≤ completedYears b on := by
  rw [completedYears_of_le h]
  exact ⟨(floorYears_bounds b on).1, (floorYears_bounds b on).2, floorYears_nonneg b on h⟩

/-- born after the reference date: the (truncated) age is never positive -/
theorem completedYears_nonpos (b on : Date) (h : ¬ b.le on) : completedYears b on ≤ 0 := by
  rw [completedYears_of_not_le h]
  exact truncYears_nonpos b on h

theorem floorYears_mono_on (b o1 o2 : Date) (h : o1.le o2) : floorYears b o1 ≤ floorYears b o2 := by
  by_cases hy : o1.y = o2.y
  · -- same year, hence the same clipped birthday
    unfold floorYears
    rw [hy]
    apply Int.sub_le_sub_left (ind_le _)
    unfold Date.le at h
    omega
  · have := (floorYears_bounds b o1).2
    have := (floorYears_bounds b o2).1
    unfold Date.le at h
    omega

theorem truncYears_mono_on (b o1 o2 : Date) (h : o1.le o2) : truncYears b o1 ≤ truncYears b o2 := by
  by_cases hy : o1.y = o2.y
  · unfold truncYears
    rw [hy]
    apply Int.add_le_add_left (ind_le _)
    unfold Date.le at h
    omega
  · have := (truncYears_bounds b o1).2
    have := (truncYears_bounds b o2).1
    unfold Date.le at h
    omega

/-- a later reference date never gives a smaller age -/
theorem completedYears_le_of_on_le (b o1 o2 : Date) (h : o1.le o2) :
    completedYears b o1 ≤ completedYears b o2 := by
  by_cases c1 : b.le o1
  · rw [completedYears_of_le c1, completedYears_of_le (Date.le_trans c1 h)]
    exact floorYears_mono_on b o1 o2 h
  · by_cases c2 : b.le o2
    · rw [completedYears_of_not_le c1, completedYears_of_le c2]
      exact Int.le_trans (truncYears_nonpos b o1 c1) (floorYears_nonneg b o2 c2)
    · rw [completedYears_of_not_le c1, completedYears_of_not_le c2]
      exact truncYears_mono_on b o1 o2 h

/-- the same under validity hypotheses, which are not needed: it is `completedYears_le_of_on_le` -/
theorem completedYears_mono_on (b o1 o2 : Date) (hb : b.valid) (h1 : o1.valid) (h2 : o2.valid) (h : o1.le o2) :
    completedYears b o1 ≤ completedYears b o2 := completedYears_le_of_on_le b o1 o2 h

theorem Date.succ_valid (a : Date) (h : a.valid) : a.succ.valid := by
  have := (daysIn_bounds a.y (a.m + 1)).1
  have := (daysIn_bounds (a.y + 1) 1).1
  unfold Date.succ Date.valid at *
  split
  · dsimp only
    omega
  · split <;> dsimp only <;> omega

theorem Date.lt_succ (a : Date) : a.lt a.succ := by
  unfold Date.succ Date.lt
  (repeat' split) <;> simp <;> omega

end AthlibVerif.Cal
