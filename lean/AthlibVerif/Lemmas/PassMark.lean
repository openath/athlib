import AthlibVerif.Lemmas.Commute
/-!
# A pass is only a mark

An accepted pass writes `-` into the athlete's current cell and marks the athlete as done at this height; state,
heights, bests, the places shown and every other card stay as they were ("explicit pass marks aside" in the card round
trip; a place that is not shown may change: a pass before anybody has cleared has `_rankj` number the athletes).
Here: what a sheet shows pass marks aside (`obsP`), and the two facts about the passer's record that make it so —
the key is unchanged (`key_pass`: the key reads the card only through the failures cell by cell, `key_congr`) and
`_rank` afterwards is `_rankj` (`pass_rank_eq`).  The statement itself, `C08_pass_is_only_a_mark`, is read off the
simulation of Lemmas/EraseStep.
-/
namespace AthlibVerif.HJ
open AthlibVerif.Ranking

/-- The empty cells at the end go with the pass marks: a pass pads the card up to the current height, so without it the
    card may be shorter. -/
def stripCard (card : List (List Trial)) : List (List Trial) :=
  ((card.map (fun cell => cell.filter (· != .p))).reverse.dropWhile (·.isEmpty)).reverse

/-- the place is the one the property `place` shows: none for an athlete without a clearance -/
def obsP (c : Comp) : Phase × List Int × List (Nat × Option Nat × Int × List (List Trial)) :=
  (c.phase, c.heights,
   c.jumpers.map (fun j => (j.bib, (if j.bestIdx.isSome then some j.place else none), j.best, stripCard j.card)))

theorem countX_snoc_p (cell : List Trial) : countX (cell ++ [Trial.p]) = countX cell := by
  unfold countX; simp

theorem sum_take_countX (l : List (List Trial)) (i : Nat) :
    ((l.take i).map countX).sum = ((List.range i).map (fun m => countX (l.getD m []))).sum := by
  induction i generalizing l with
  | zero => simp
  | succ n ih =>
    cases l with
    | nil => simp [countX, List.map_const', List.sum_replicate_nat]
    | cons a rest =>
      rw [List.take_succ_cons, List.map_cons, List.sum_cons, ih rest, List.range_succ_eq_map, List.map_cons, List.sum_cons,
        List.map_map]
      simp [Function.comp_def]

theorem key_congr {j j' : Jumper} (hi : j'.bestIdx = j.bestIdx) (he : j'.eliminated = j.eliminated) (hb : j'.best = j.best)
    (hc : ∀ m, countX (j'.card.getD m []) = countX (j.card.getD m [])) : j'.key = j.key := by
  unfold Jumper.key
  rw [hi, he, hb]
  cases j.bestIdx with
  | none => rfl
  | some i =>
    simp only
    rw [hc i, sum_take_countX, sum_take_countX]
    simp only [hc]

theorem key_pass (hs : List Int) (j : Jumper) (hb : BestInv hs j) (hpos : hs ≠ []) :
    (j.actCore hs.length (hs.getLast?.getD 0) .p).key = j.key := by
  refine key_congr rfl rfl rfl (fun m => ?_)
  show countX ((appendLast (padCard j.card hs.length) .p).getD m []) = _
  rw [(marked_card j.card hs.length .p hb.len (List.length_pos_iff.2 hpos)).2 m]
  split
  · exact countX_snoc_p _
  · rfl

theorem pass_rank_eq (c : Comp) (hw : WF c) (hf : AllFlags c) (b : Nat) (j j' : Jumper) (hfd : c.find b = some j)
    (hne : c.heights ≠ []) (hact : j.act c.heights.length (c.heights.getLast?.getD 0) .p = some j') :
    rank (logTrial c b .p j') = rankj (logTrial c b .p j') := by
  obtain ⟨he, hd, _⟩ := act_some j j' _ _ .p hact
  obtain ⟨hmj, hbj⟩ := find_some_mem c b j hfd
  obtain rfl : j' = j.actCore c.heights.length (c.heights.getLast?.getD 0) .p := act_core j j' _ _ .p hact
  refine rank_eq_rankj_of _ (logTrial_WF c hw b .p _) (j.actCore c.heights.length (c.heights.getLast?.getD 0) .p)
    (List.mem_map.2 ⟨j, hmj, if_pos (by simp [actCore_bib])⟩) he (fun _ => ?_)
  -- the passer's current cell: failures only, then the pass
  rw [actCore_card, appendLast_getLast _ _ (padCard_ne_nil _ (List.length_pos_iff.2 hne)), List.contains_append,
    allX_no_o _ ((hf j hmj).openCell he hd)]
  rfl

end AthlibVerif.HJ
