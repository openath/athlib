import AthlibVerif.Lemmas.CardShape
/-!
# Three consecutive failures — on the card

For an athlete who has never been re-instated for a jump-off (`roundLim = 3`), the counter the code keeps is the
number of failures on the card since the last clearance (passes and empty cells do not interrupt the run), the
athlete is out exactly when that number has reached three or the card shows a retirement, and it never exceeds
three.  Kept by every accepted call (`AllConsec.accepts`); ranking only touches it by re-instating, which also sets
`roundLim = 1`.  The file opens with `rank_relG`, the reading of `rank_records` for a relation on records that ranking
respects (`RankStable`): a stated result that nothing uses, the invariants going record by record through
`Accepts.forall_records`.
-/
namespace AthlibVerif.HJ

structure RankStable (R : Jumper → Jumper → Prop) : Prop where
  refl : ∀ j, R j j
  trans : ∀ a b c, R a b → R b c → R a c
  place : ∀ j p, R j { j with place := p }
  reinst : ∀ j, R j (reinstate j)

/-- every record of `l'` comes from a record of `l` it is `R`-related to (`G`: for a general `R`) -/
def RelFromG (R : Jumper → Jumper → Prop) (l l' : List Jumper) : Prop := ∀ j' ∈ l', ∃ j ∈ l, R j j'

section
variable {R : Jumper → Jumper → Prop} (hR : RankStable R)
include hR

theorem rank_relG (c0 : Comp) (h : WF c0) : RelFromG R c0.jumpers (rank c0).jumpers := by
  obtain ⟨⟨f, hf, hr⟩, _⟩ := rank_records c0 h
  intro j' hj'
  rw [hf] at hj'
  obtain ⟨j, hj, rfl⟩ := List.mem_map.1 hj'
  refine ⟨j, hj, ?_⟩
  have := hr j
  generalize f j = j' at this
  cases this with
  | place p => exact hR.place j p
  | back p => exact hR.trans _ _ _ (hR.place j p) (hR.reinst _)
end

/-- failures since the last clearance, reading the flattened card backwards -/
def trailingX (l : List Trial) : Nat := (l.reverse.takeWhile (· != .o)).count .x

theorem trailingX_snoc (l : List Trial) (t : Trial) :
    trailingX (l ++ [t]) = match t with | .o => 0 | .x => trailingX l + 1 | _ => trailingX l := by
  unfold trailingX
  cases t <;> simp

def hasR (card : List (List Trial)) : Bool := card.flatten.contains .r

theorem flatten_padCard (card : List (List Trial)) (n : Nat) : (padCard card n).flatten = card.flatten := by
  unfold padCard
  simp [List.flatten_append, List.flatten_replicate_nil]

theorem flatten_appendLast (card : List (List Trial)) (t : Trial) (hne : card ≠ []) :
    (appendLast card t).flatten = card.flatten ++ [t] := by
  obtain ⟨init, last, rfl, e⟩ := appendLast_split card t hne
  rw [e]
  simp [List.flatten_append]

structure ConsecInv (hs : List Int) (j : Jumper) : Prop where
  count : j.roundLim = 3 → j.consec = trailingX j.card.flatten
  out : j.roundLim = 3 → (j.eliminated = true ↔ (hasR j.card = true ∨ 3 ≤ j.consec))
  bound : j.roundLim = 3 → j.consec ≤ 3
  -- not without `roundLim = 3`: after a re-instatement the athlete is in, still dismissed, and the cell may read `xxx`
  done : j.roundLim = 3 → j.dismissed = true → j.eliminated = false →
    allX ((padCard j.card hs.length).getLast?.getD []) = false

theorem ConsecInv.in_iff {hs : List Int} {j : Jumper} (h : ConsecInv hs j) (h3 : j.roundLim = 3) :
    j.eliminated = false ↔ (hasR j.card = false ∧ j.consec < 3) := by
  rw [← Bool.not_eq_true, h.out h3, not_or, Bool.not_eq_true, Nat.not_le]

theorem ConsecInv_act (hs : List Int) (j : Jumper) (t : Trial) (h : ConsecInv hs j) (hf : FlagInv hs j) (hpos : hs ≠ [])
    (he : j.eliminated = false) :
    ConsecInv hs (j.actCore hs.length (hs.getLast?.getD 0) t) := by
  have hp : 0 < hs.length := List.length_pos_iff.2 hpos
  have hlastnew := (card_after_trial j.card hp hf.len t).2
  have hflat : (appendLast (padCard j.card hs.length) t).flatten = j.card.flatten ++ [t] := by
    rw [flatten_appendLast _ t (padCard_ne_nil j.card hp), flatten_padCard]
  have hR : hasR (appendLast (padCard j.card hs.length) t) = (hasR j.card || t == .r) := by
    unfold hasR
    rw [hflat, List.contains_append]
    cases t <;> simp
  refine ⟨fun h3 => ?_, fun h3 => ?_, fun h3 => ?_, fun h3 hd' he' => ?_⟩
  all_goals rw [actCore_roundLim] at h3
  all_goals obtain ⟨hnr, hlt⟩ := (h.in_iff h3).1 he
  · rw [actCore_consec, actCore_card, hflat, trailingX_snoc, h.count h3]
    cases t <;> rfl
  · rw [actCore_eliminated _ _ _ _ he, actCore_consec, actCore_card, hR, hnr, h3]
    cases t <;> simp <;> omega
  · rw [actCore_consec]
    cases t <;> simp <;> omega
  · -- in and done: the mark closed the cell
    rw [actCore_eliminated _ _ _ _ he, h3] at he'
    rw [actCore_dismissed, h3] at hd'
    rw [actCore_card, hlastnew]
    unfold allX
    rw [List.all_append]
    cases t <;> simp_all

theorem trailingX_append_allX (cell : List Trial) : ∀ a : List Trial, allX cell = true →
    trailingX (a ++ cell) = trailingX a + cell.length := by
  induction cell with
  | nil => intro a _; simp
  | cons t rest ih =>
    intro a h
    unfold allX at h
    simp only [List.all_cons, Bool.and_eq_true, beq_iff_eq] at h
    obtain ⟨ht, hrest⟩ := h
    subst ht
    have : a ++ Trial.x :: rest = (a ++ [Trial.x]) ++ rest := by simp
    rw [this, ih (a ++ [Trial.x]) (by unfold allX; exact hrest), trailingX_snoc]
    simp only [List.length_cons]; omega

/-- an open current cell is part of the run of failures at the end of the card -/
theorem open_cell_le_trailing (card : List (List Trial)) (n : Nat) (hlen : card.length ≤ n)
    (h : allX ((padCard card n).getLast?.getD []) = true) :
    ((padCard card n).getLast?.getD []).length ≤ trailingX card.flatten := by
  by_cases hs : card.length < n
  · rw [padCard_last_of_short _ _ hs]; simp
  · have he : card.length = n := by omega
    rw [padCard_of_full _ _ he] at h ⊢
    rcases List.eq_nil_or_concat card with h' | ⟨init, last, h'⟩
    · subst h'; simp
    · have hc : card = init ++ [last] := by simpa using h'
      subst hc
      simp only [List.getLast?_append, List.getLast?_singleton, Option.some_or, Option.getD_some] at h ⊢
      rw [List.flatten_append, List.flatten_singleton, trailingX_append_allX last _ h]
      omega

def AllConsec (c : Comp) : Prop := ∀ j ∈ c.jumpers, ConsecInv c.heights j

theorem ConsecInv.rerank {hs : List Int} {k k' : Jumper} (hr : Reranked k k') (h : ConsecInv hs k) : ConsecInv hs k' := by
  cases hr with
  | place => exact ⟨h.count, h.out, h.bound, h.done⟩
  | back => exact ⟨fun h3 => (by cases h3), fun h3 => (by cases h3), fun h3 => (by cases h3), fun h3 => (by cases h3)⟩

theorem ConsecInv.new (hs : List Int) (b p : Nat) : ConsecInv hs { bib := b, place := p } :=
  ⟨fun _ => rfl, fun _ => by simp [hasR], fun _ => by simp, fun _ hd _ => by simp at hd⟩

theorem ConsecInv.bar {hs : List Int} {k : Jumper} (x : Int) (h : ConsecInv hs k) :
    ConsecInv (hs ++ [x]) { k with dismissed := k.eliminated && k.dismissed } := by
  refine ⟨h.count, h.out, h.bound, fun _ hd he => ?_⟩
  have he : k.eliminated = false := he
  simp [he] at hd

theorem AllConsec.accepts {c c' : Comp} {op : Op} (hw : WF c) (hf : AllFlags c) (h : AllConsec c) (ha : Accepts c op c') :
    AllConsec c' :=
  ha.forall_records hw (fun b p _ => ConsecInv.new _ b p)
    (fun x _ _ hk => hk.bar x)
    (fun t k hm hh he _ _ hk => ConsecInv_act _ k t hk (hf k hm) hh he)
    (fun _ _ => ConsecInv.rerank) h

end AthlibVerif.HJ
