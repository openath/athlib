import AthlibVerif.Model.Perf
/-!
# The checks of the timed branch, as propositions

`timedGuards` accepts exactly when a handful of inequalities hold (`timedGuards_eq_time`).  They speak of the seconds
`sn / sd` only through that ratio, so they can be read in hundredths whenever the hundredths are exact
(`timedGuards_centi`).  Hence what `timedDecide` accepts passes the guards in hundredths (`timedDecide_centi`) and is
accepted again, as the same time, at whatever precision it is written down (`timedDecide_again`).
-/
namespace AthlibVerif.Perf
open AthlibVerif AthlibVerif.Codes

/-- `if distance and …` of the Python: the event has a distance and it is not zero (the `dpos` of `timedDecide` and
    `timedCore`, which bind it locally) -/
def dposOf (distance : Option Nat) : Bool := match distance with | some d => d > 0 | none => false

@[simp] theorem dposOf_some (d : Nat) : dposOf (some d) = decide (d > 0) := rfl

theorem refused_else {p : Prop} [Decidable p] {x : TimedRes} {h m c : Nat} :
    (if p then .refused else x) = TimedRes.time h m c ↔ ¬ p ∧ x = .time h m c := by
  split
  · simp [*]
  · simp [*]

theorem skip_else {p : Prop} [Decidable p] {x : TimedRes} {h m c : Nat} :
    (if p then .skip else x) = TimedRes.time h m c ↔ ¬ p ∧ x = .time h m c := by
  split
  · simp [*]
  · simp [*]

theorem speedBad_eq_false {dpos : Bool} {dval durN sd : Nat} :
    speedBad dpos dval durN sd = false ↔
      (dpos = true → 0 < durN ∧ (dval ≤ 400 → dval * sd ≤ 11 * durN) ∧ (400 < dval → dval * sd ≤ 10 * durN) ∧
        durN ≤ 2 * dval * sd) := by
  unfold speedBad
  cases dpos
  · simp
  · simp only [Bool.true_and, Bool.or_eq_false_iff, beq_eq_false_iff_ne, decide_eq_false_iff_not, forall_const]
    by_cases h : dval ≤ 400
    · rw [if_pos h, decide_eq_false_iff_not]
      constructor
      · rintro ⟨a, b, c⟩
        exact ⟨by omega, fun _ => by omega, fun _ => by omega, by omega⟩
      · rintro ⟨a, b, _, c⟩
        have := b h
        exact ⟨by omega, by omega, by omega⟩
    · rw [if_neg h, decide_eq_false_iff_not]
      constructor
      · rintro ⟨a, b, c⟩
        exact ⟨by omega, fun _ => by omega, fun _ => by omega, by omega⟩
      · rintro ⟨a, _, b, c⟩
        have := b (by omega)
        exact ⟨by omega, by omega, by omega⟩

/-- acceptance is the five `if`s of `timedGuards` all failing; in the proof `g1` … `g5` are these, top to bottom -/
theorem timedGuards_eq_time {xc dpos : Bool} {dval hours minutes sn sd sdecs h m c : Nat} :
    timedGuards xc dpos dval hours minutes sn sd sdecs = .time h m c ↔
      h = hours ∧ m = minutes ∧ c = sn * 100 / sd ∧
      ((0 < hours ∨ 0 < minutes) → sn < 60 * sd) ∧ (0 < hours → minutes < 60) ∧ sdecs ≤ 2 ∧
      speedBad dpos dval ((3600 * hours + 60 * minutes) * sd + sn) sd = false ∧
      (xc = true → minutes = 0 → hours = 0 → dpos = true ∧ 0 < (3600 * hours + 60 * minutes) * sd + sn) := by
  unfold timedGuards
  simp only [refused_else, skip_else, TimedRes.time.injEq, Bool.and_eq_true, Bool.or_eq_true, decide_eq_true_eq,
    Bool.not_eq_true', Bool.not_eq_true, beq_iff_eq]
  generalize (3600 * hours + 60 * minutes) * sd + sn = dur
  have hx : (dpos && decide (dur > 0)) = false ↔ ¬ (dpos = true ∧ 0 < dur) := by
    cases dpos
    · simp
    · simp
  rw [hx]
  -- `!(…) && xc && minutes == 0 && hours == 0` of the fifth `if` associates to the left: `⟨⟨⟨n, hxc⟩, hm⟩, hh⟩`
  constructor
  · rintro ⟨g1, g2, g3, g4, g5, rfl, rfl, rfl⟩
    exact ⟨rfl, rfl, rfl, fun a => Nat.not_le.1 fun b => g1 ⟨a, b⟩, fun a => Nat.not_le.1 fun b => g2 ⟨a, b⟩,
      Nat.not_lt.1 g3, g4, fun hxc hm hh => Decidable.not_not.1 fun n => g5 ⟨⟨⟨n, hxc⟩, hm⟩, hh⟩⟩
  · rintro ⟨rfl, rfl, rfl, g1, g2, g3, g4, g5⟩
    exact ⟨fun ⟨a, b⟩ => Nat.not_le.2 (g1 a) b, fun ⟨a, b⟩ => Nat.not_le.2 (g2 a) b, Nat.not_lt.2 g3, g4,
      fun ⟨⟨⟨n, hxc⟩, hm⟩, hh⟩ => n (g5 hxc hm hh), rfl, rfl, rfl⟩

theorem le_centi {sd x y X Y : Nat} (hsd : 0 < sd) (hx : x * 100 = X * sd) (hy : y * 100 = Y * sd) : x ≤ y ↔ X ≤ Y := by
  rw [← Nat.mul_le_mul_right_iff (show 0 < 100 by omega), hx, hy, Nat.mul_le_mul_right_iff hsd]

theorem lt_centi {sd x y X Y : Nat} (hsd : 0 < sd) (hx : x * 100 = X * sd) (hy : y * 100 = Y * sd) : x < y ↔ X < Y := by
  rw [← Nat.not_le, ← Nat.not_le, le_centi hsd hy hx]

/-- every comparison in `timedGuards` and `speedBad` is homogeneous in `(n, sd)` -/
theorem timedGuards_centi {xc dpos : Bool} {dval h m n sd k c h' m' c' : Nat} (hsd : 0 < sd) (hk : k ≤ 2)
    (hn : n * 100 = c * sd) :
    timedGuards xc dpos dval h m n sd k = .time h' m' c' ↔ timedGuards xc dpos dval h m c 100 2 = .time h' m' c' := by
  have hd : ((3600 * h + 60 * m) * sd + n) * 100 = ((3600 * h + 60 * m) * 100 + c) * sd := by
    rw [Nat.add_mul, hn, Nat.add_mul (_ * 100) c sd, Nat.mul_right_comm _ sd 100]
  generalize hD : (3600 * h + 60 * m) * sd + n = dur at hd
  generalize hC : (3600 * h + 60 * m) * 100 + c = durC at hd
  have e1 : n < 60 * sd ↔ c < 60 * 100 := lt_centi hsd hn (Nat.mul_right_comm ..)
  have e2 : 0 < dur ↔ 0 < durC := lt_centi hsd (by simp) hd
  have e3 : ∀ b, dval * sd ≤ b * dur ↔ dval * 100 ≤ b * durC := fun b =>
    le_centi hsd (Nat.mul_right_comm ..) (by rw [Nat.mul_assoc, hd, Nat.mul_assoc])
  have e4 : dur ≤ 2 * dval * sd ↔ durC ≤ 2 * dval * 100 := le_centi hsd hd (Nat.mul_right_comm ..)
  have e5 : n * 100 / sd = c * 100 / 100 := by
    rw [hn, Nat.mul_div_cancel _ hsd, Nat.mul_div_cancel _ (by omega)]
  simp only [timedGuards_eq_time, speedBad_eq_false, hD, hC, e1, e2, e3, e4, e5, hk, Nat.le_refl]

theorem centi_exact (n k : Nat) (hk : k ≤ 2) : n * 100 / 10 ^ k * 10 ^ k = n * 100 :=
  Nat.div_mul_cancel (Nat.dvd_trans (Nat.pow_dvd_pow 10 hk) (Nat.dvd_mul_left 100 n))

theorem timedDecide_centi {disc : Str} {dist : Option Nat} {h0 m0 sn0 dc0 h m c : Nat}
    (hr : timedDecide disc dist h0 m0 sn0 (10 ^ dc0) dc0 = .time h m c) :
    timedGuards (strEq (upper disc) "XC") (dposOf dist) (dist.getD 0) h m c 100 2 = .time h m c ∧
      (m = 0 → c < 10000) := by
  have hsd : 0 < 10 ^ dc0 := Nat.pow_pos (by omega)
  unfold timedDecide at hr
  simp only [refused_else, Bool.and_eq_true, beq_iff_eq, decide_eq_true_eq] at hr
  obtain ⟨hfirst, hr⟩ := hr
  split at hr
  · -- 63:40 read as 63.40 s: the guards allow two decimals, so none was typed
    obtain ⟨hlt, hr⟩ := refused_else.1 hr
    obtain ⟨rfl, rfl, rfl, _, _, hdc, _⟩ := timedGuards_eq_time.1 hr
    have : dc0 = 0 := by omega
    subst this
    rw [timedGuards_centi (c := m0 * 100 + sn0) (by omega) hdc (by omega)] at hr
    have e : (m0 * 100 * 10 ^ 0 + sn0) * 100 / (100 * 10 ^ 0) = m0 * 100 + sn0 := by omega
    rw [e] at hr ⊢
    exact ⟨hr, fun _ => by omega⟩
  · obtain ⟨rfl, rfl, rfl, _, _, hdc, _⟩ := timedGuards_eq_time.1 hr
    have hex := centi_exact sn0 dc0 hdc
    rw [timedGuards_centi hsd hdc hex.symm] at hr
    refine ⟨hr, fun hm => ?_⟩
    have : sn0 < 100 * 10 ^ dc0 := by omega
    exact Nat.lt_of_mul_lt_mul_right (a := 10 ^ dc0) (by rw [hex]; omega)

theorem timedDecide_again {disc : Str} {dist : Option Nat} {h0 m0 sn0 dc0 h m c : Nat}
    (hr : timedDecide disc dist h0 m0 sn0 (10 ^ dc0) dc0 = .time h m c) {n k : Nat} (hk : k ≤ 2)
    (hn : n * 100 = c * 10 ^ k) : timedDecide disc dist h m n (10 ^ k) k = .time h m c := by
  have hsd : 0 < 10 ^ k := Nat.pow_pos (by omega)
  obtain ⟨hg, hc⟩ := timedDecide_centi hr
  have hfirst : ¬ (m = 0 ∧ n ≥ 100 * 10 ^ k) := fun ⟨hm, hge⟩ => by
    have := hc hm
    have : n * 100 < 10000 * 10 ^ k := by
      rw [hn]
      exact Nat.mul_lt_mul_of_pos_right this hsd
    omega
  -- the 400 m re-reading needs more than 45 minutes, and the speed window ends at 2 s per metre
  have hmud : ¬ (dist = some 400 ∧ m > 45) := fun ⟨hd, hm⟩ => by
    subst hd
    obtain ⟨_, _, _, _, _, _, hs, _⟩ := timedGuards_eq_time.1 hg
    have := speedBad_eq_false.1 hs (by simp)
    simp only [Option.getD_some] at this
    omega
  unfold timedDecide
  simp only [Bool.and_eq_true, beq_iff_eq, decide_eq_true_eq, hfirst, hmud, if_false]
  exact (timedGuards_centi hsd hk hn).2 hg

end AthlibVerif.Perf
