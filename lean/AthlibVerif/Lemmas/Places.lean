import AthlibVerif.Lemmas.HJ
import AthlibVerif.Lemmas.Ranking
import AthlibVerif.Lemmas.ListFacts
/-!
# The places of the high-jump model follow the keys — in every state a trial leaves behind

`rankj` (= `_rankj` of athlib/highjump.py) walks the ranked bibs, looks each athlete up in the competition,
and writes a place into the record; the records it reads later have already been rewritten.  This file shows
that, as long as bibs are distinct and `ranked` lists every bib once (`WF`, an invariant of `step`), the
result is the abstract numbering of Lemmas/Ranking on the keys: every athlete's place is `1 +` the number of
athletes with a strictly better key (`Ranked`).  `rank` ends, on every path, either in `rankj` or in a change
of phase only, so `Ranked` holds after every accepted trial (`rank_records`, Lemmas/Records); raising the bar does
not touch keys or places.
-/
namespace AthlibVerif.HJ
open AthlibVerif.Ranking

def WF (c : Comp) : Prop :=
  (c.jumpers.map (·.bib)).Nodup ∧ c.ranked.Perm (c.jumpers.map (·.bib))

def Ranked (c : Comp) : Prop :=
  ∀ j ∈ c.jumpers, j.place = 1 + (c.jumpers.filter (fun k => Key.lt k.key j.key)).length

def setPlace (b pl : Nat) (k : Jumper) : Jumper := if k.bib == b then { k with place := pl } else k

@[simp] theorem setPlace_bib (b pl : Nat) (k : Jumper) : (setPlace b pl k).bib = k.bib := by
  unfold setPlace; split <;> rfl
@[simp] theorem setPlace_key (b pl : Nat) (k : Jumper) : (setPlace b pl k).key = k.key := by
  unfold setPlace; split <;> rfl

theorem bib_inj (l : List Jumper) (h : (l.map (·.bib)).Nodup) (j k : Jumper) (hj : j ∈ l) (hk : k ∈ l)
    (e : j.bib = k.bib) : j = k := by
  rcases pairwise_mem_cases (List.pairwise_map.1 h) hj hk with hjk | hne | hne
  · exact hjk
  · exact absurd e hne
  · exact absurd e.symm hne

theorem find_some_mem (c : Comp) (b : Nat) (j : Jumper) (h : c.find b = some j) : j ∈ c.jumpers ∧ j.bib = b := by
  unfold Comp.find at h
  exact ⟨List.mem_of_find?_eq_some h, by simpa using List.find?_some h⟩

theorem find_of_mem (c : Comp) (hn : (c.jumpers.map (·.bib)).Nodup) (j : Jumper) (hj : j ∈ c.jumpers) :
    c.find j.bib = some j := by
  unfold Comp.find
  cases hf : c.jumpers.find? (·.bib == j.bib) with
  | none =>
    have := List.find?_eq_none.1 hf j hj
    simp at this
  | some k =>
    have hk := List.mem_of_find?_eq_some hf
    have hb : k.bib = j.bib := by simpa using List.find?_some hf
    rw [bib_inj c.jumpers hn k j hk hj hb]

theorem eq_of_find (c : Comp) (hn : (c.jumpers.map (·.bib)).Nodup) {b : Nat} {j k : Jumper} (hf : c.find b = some j)
    (hk : k ∈ c.jumpers) (e : (k.bib == b) = true) : k = j :=
  bib_inj c.jumpers hn k j hk (find_some_mem c b j hf).1 (by rw [(find_some_mem c b j hf).2]; simpa using e)

theorem update_eq_map (c : Comp) (hn : (c.jumpers.map (·.bib)).Nodup) (b : Nat) (j : Jumper) (hf : c.find b = some j)
    (g : Jumper → Jumper) (hg : (g j).bib = j.bib) :
    (c.update (g j)).jumpers = c.jumpers.map (fun k => if k.bib == b then g k else k) := by
  unfold Comp.update
  apply List.map_congr_left
  intro k hk
  rw [hg, (find_some_mem c b j hf).2]
  split
  · next e => rw [eq_of_find c hn hf hk e]
  · rfl

theorem find_map (l : List Jumper) (f : Jumper → Jumper) (hf : ∀ k, (f k).bib = k.bib) (b : Nat) :
    (l.map f).find? (·.bib == b) = (l.find? (·.bib == b)).map f := by
  rw [List.find?_map]; simp only [Function.comp_def, hf]

/-- the default is arbitrary: only registered bibs are ever asked (`wf_found`) -/
def keyOf (c : Comp) (b : Nat) : Key := ((c.find b).map Jumper.key).getD ⟨0, 0, 0, 0⟩

theorem keyOf_of_find {c : Comp} {b : Nat} {j : Jumper} (h : c.find b = some j) : keyOf c b = j.key := by
  simp [keyOf, h]

theorem keyOf_map (c : Comp) (f : Jumper → Jumper) (hb : ∀ k, (f k).bib = k.bib) (hk : ∀ k, (f k).key = k.key) :
    keyOf { c with jumpers := c.jumpers.map f } = keyOf c := by
  funext b
  unfold keyOf Comp.find
  simp only [find_map _ f hb]
  cases c.jumpers.find? (·.bib == b) <;> simp [hk]

def applyAssigned (a : Nat → Option Nat) (j : Jumper) : Jumper :=
  match a j.bib with
  | some p => { j with place := p }
  | none => j

theorem assignPlaces_cons_some (c : Comp) (b : Nat) (rest : List Nat) (i : Nat) (prev : Option (Key × Nat)) (j : Jumper)
    (h : c.find b = some j) :
    assignPlaces c (b :: rest) i prev =
      assignPlaces (c.update { j with place := nextPlace prev j.key i }) rest (i + 1) (some (j.key, nextPlace prev j.key i)) := by
  simp only [assignPlaces, h]
  cases prev with
  | none => rfl
  | some q => obtain ⟨pk, pp⟩ := q; rfl

/-- The loop of `_rankj` writes what `placesK` computes on the keys: if that is `π` along `l`, every listed athlete gets the
    place `π` of their bib.  (A bib met twice would be written twice with the same place: `l` need not be duplicate-free.) -/
theorem assignPlaces_map (π : Nat → Nat) (l : List Nat) : ∀ (c : Comp) (i : Nat) (prev : Option (Key × Nat)),
    (c.jumpers.map (·.bib)).Nodup → (∀ b ∈ l, (c.find b).isSome) → placesK (l.map (keyOf c)) i prev = l.map π →
    (assignPlaces c l i prev).jumpers = c.jumpers.map (fun k => if k.bib ∈ l then { k with place := π k.bib } else k) := by
  induction l with
  | nil => intro c i prev _ _ _; simp [assignPlaces]
  | cons b rest ih =>
    intro c i prev hn hfound hπ
    obtain ⟨j, hj⟩ := Option.isSome_iff_exists.1 (hfound b (by simp))
    rw [List.map_cons, placesK, List.map_cons, keyOf_of_find hj] at hπ
    obtain ⟨hb, hrest⟩ := List.cons.inj hπ
    rw [hb] at hrest
    rw [assignPlaces_cons_some c b rest i prev j hj, hb]
    have hc1 : c.update { j with place := π b } = { c with jumpers := c.jumpers.map (setPlace b (π b)) } :=
      congrArg (fun js => { c with jumpers := js }) (update_eq_map c hn b j hj (fun k => { k with place := π b }) rfl)
    -- the loop goes on in the rewritten competition, whose keys are those of `c`: a place is no part of a key
    have hk := keyOf_map c _ (setPlace_bib b (π b)) (setPlace_key b (π b))
    rw [hc1, ih _ (i + 1) _ (by simpa [List.map_map, Function.comp_def] using hn)
      (fun b' hb' => by
        unfold Comp.find
        rw [find_map _ _ (setPlace_bib b _), Option.isSome_map]
        exact hfound b' (List.mem_cons_of_mem _ hb'))
      (by rw [hk]; exact hrest), List.map_map]
    refine List.map_congr_left (fun k _ => ?_)
    simp only [Function.comp_apply, setPlace_bib, List.mem_cons]
    unfold setPlace
    by_cases e : k.bib = b
    · simp [e]
    · simp [e]

theorem keyLt_strictTotal : StrictTotal Key.lt where
  irrefl := by
    intro a; unfold Key.lt; simp
  trans := by
    intro a b c h1 h2
    unfold Key.lt at *
    simp only [Bool.or_eq_true, Bool.and_eq_true, decide_eq_true_eq, beq_iff_eq] at *
    omega
  tri := by
    intro a b
    unfold Key.lt
    simp only [Bool.or_eq_true, Bool.and_eq_true, decide_eq_true_eq, beq_iff_eq]
    have : a = b ↔ (a.status = b.status ∧ a.negBest = b.negBest ∧ a.fa = b.fa ∧ a.fb = b.fb) := by
      constructor
      · rintro rfl; simp
      · cases a; cases b; simp_all
    rw [this]
    omega

theorem insertBy_perm (c : Comp) (b : Nat) (l : List Nat) : (insertBy c b l).Perm (b :: l) := by
  induction l with
  | nil => simp [insertBy]
  | cons x xs ih =>
    simp only [insertBy]
    split
    · split
      · exact List.Perm.refl _
      · exact ((List.Perm.cons x ih).trans (List.Perm.swap b x xs))
    · exact ((List.Perm.cons x ih).trans (List.Perm.swap b x xs))

theorem sortRanked_perm (c : Comp) (l : List Nat) : (sortRanked c l).Perm l := by
  unfold sortRanked
  suffices ∀ acc : List Nat, (l.foldl (fun acc b => insertBy c b acc) acc).Perm (acc ++ l) by simpa using this []
  induction l with
  | nil => intro acc; simp
  | cons b rest ih =>
    intro acc
    simp only [List.foldl_cons]
    refine (ih _).trans ?_
    refine (List.Perm.append_right rest (insertBy_perm c b acc)).trans ?_
    simpa using (List.perm_middle (a := b) (l₁ := acc) (l₂ := rest)).symm

theorem insertBy_is_insertK (c : Comp) (b : Nat) (hb : (c.find b).isSome) :
    ∀ l : List Nat, (∀ a ∈ l, (c.find a).isSome) →
      (insertBy c b l).map (keyOf c) = insertK Key.lt (keyOf c b) (l.map (keyOf c)) := by
  intro l
  induction l with
  | nil => intro _; simp [insertBy, insertK]
  | cons a rest ih =>
    intro hl
    obtain ⟨jb, hjb⟩ := Option.isSome_iff_exists.1 hb
    obtain ⟨ja, hja⟩ := Option.isSome_iff_exists.1 (hl a (by simp))
    simp only [insertBy, hjb, hja, List.map_cons, insertK]
    have e1 : keyOf c b = jb.key := keyOf_of_find hjb
    have e2 : keyOf c a = ja.key := keyOf_of_find hja
    rw [e1, e2]
    split
    · simp [e1, e2]
    · simp only [List.map_cons, e2]
      rw [ih (fun x hx => hl x (by simp [hx])), e1]

theorem sortRanked_is_key_sort (c : Comp) (l : List Nat) (hl : ∀ a ∈ l, (c.find a).isSome) :
    (sortRanked c l).map (keyOf c) = sortK Key.lt (l.map (keyOf c)) := by
  unfold sortRanked sortK
  suffices ∀ acc : List Nat, (∀ a ∈ acc, (c.find a).isSome) →
      (l.foldl (fun acc b => insertBy c b acc) acc).map (keyOf c) =
        (l.map (keyOf c)).foldl (fun acc x => insertK Key.lt x acc) (acc.map (keyOf c)) by
    simpa using this [] (by simp)
  induction l with
  | nil => intro acc _; rfl
  | cons b rest ih =>
    intro acc hacc
    simp only [List.foldl_cons, List.map_cons]
    have hb := hl b (by simp)
    have hmem : ∀ a ∈ insertBy c b acc, (c.find a).isSome := by
      intro a ha
      rcases List.mem_cons.1 ((insertBy_perm c b acc).mem_iff.1 ha) with rfl | h
      · exact hb
      · exact hacc a h
    rw [ih (fun a ha => hl a (by simp [ha])) _ hmem, insertBy_is_insertK c b hb acc hacc]

theorem applyAssigned_key (a : Nat → Option Nat) (j : Jumper) : (applyAssigned a j).key = j.key := by
  unfold applyAssigned; split <;> rfl
theorem applyAssigned_bib (a : Nat → Option Nat) (j : Jumper) : (applyAssigned a j).bib = j.bib := by
  unfold applyAssigned; split <;> rfl

theorem countLt_keys (l : List Jumper) (k : Key) :
    countLt Key.lt (l.map Jumper.key) k = (l.filter (fun x => Key.lt x.key k)).length := by
  unfold countLt
  rw [List.filter_map, List.length_map]
  rfl

theorem wf_found (c : Comp) (h : WF c) : ∀ b ∈ c.ranked, (c.find b).isSome := by
  intro b hb
  have : b ∈ c.jumpers.map (·.bib) := h.2.mem_iff.1 hb
  obtain ⟨j, hj, rfl⟩ := List.mem_map.1 this
  rw [find_of_mem c h.1 j hj]; rfl

theorem keyOf_bib (c : Comp) (hw : WF c) (j : Jumper) (hj : j ∈ c.jumpers) : keyOf c j.bib = j.key :=
  keyOf_of_find (find_of_mem c hw.1 j hj)

theorem rankj_jumpers (c : Comp) (h : WF c) :
    (rankj c).jumpers = c.jumpers.map (fun j =>
      { j with place := 1 + (c.jumpers.filter (fun k => Key.lt k.key j.key)).length }) := by
  have hperm := sortRanked_perm c c.ranked
  have hsort := sortRanked_is_key_sort c c.ranked (wf_found c h)
  have hπ := placesK_sorted Key.lt keyLt_strictTotal (c.ranked.map (keyOf c))
  rw [← hsort, List.map_map] at hπ
  unfold rankj
  rw [assignPlaces_map _ _ { c with ranked := sortRanked c c.ranked } 0 none h.1
    (fun b hb => wf_found c h b (hperm.mem_iff.1 hb)) hπ]
  refine List.map_congr_left (fun j hj => ?_)
  rw [if_pos (hperm.mem_iff.2 (h.2.mem_iff.2 (List.mem_map.2 ⟨j, hj, rfl⟩)))]
  -- counting over the sorted keys = counting over the athletes
  have hp : ((sortRanked c c.ranked).map (keyOf c)).Perm (c.jumpers.map Jumper.key) := by
    have h2 : (c.jumpers.map (·.bib)).map (keyOf c) = c.jumpers.map Jumper.key := by
      rw [List.map_map]
      exact List.map_congr_left (keyOf_bib c h)
    exact h2 ▸ (hperm.trans h.2).map _
  show { j with place := 1 + countLt Key.lt _ (keyOf c j.bib) } = _
  rw [keyOf_bib c h j hj, ← countLt_keys]
  exact congrArg (fun n => { j with place := 1 + n }) (hp.filter _).length_eq

theorem rankj_ranked (c : Comp) (h : WF c) : Ranked (rankj c) := by
  intro j' hj'
  rw [rankj_jumpers c h] at hj' ⊢
  obtain ⟨j, hj, rfl⟩ := List.mem_map.1 hj'
  simp only [List.filter_map, List.length_map]
  rfl

theorem find_none_not_mem (c : Comp) (b : Nat) (h : c.find b = none) : b ∉ c.jumpers.map (·.bib) := by
  intro hb
  obtain ⟨j, hj, rfl⟩ := List.mem_map.1 hb
  unfold Comp.find at h
  have := List.find?_eq_none.1 h j hj
  simp at this

theorem WF_of_same_bibs (c c' : Comp) (hb : c'.jumpers.map (·.bib) = c.jumpers.map (·.bib)) (hr : c'.ranked.Perm c.ranked)
    (h : WF c) : WF c' := by
  unfold WF at *
  rw [hb]
  exact ⟨h.1, hr.trans h.2⟩

theorem WF_of_map (c c' : Comp) (f : Jumper → Jumper) (hj : c'.jumpers = c.jumpers.map f) (hf : ∀ k, (f k).bib = k.bib)
    (hr : c'.ranked.Perm c.ranked) (h : WF c) : WF c' :=
  WF_of_same_bibs c c' (by rw [hj, List.map_map]; exact List.map_congr_left (fun k _ => hf k)) hr h

theorem update_bibs (c : Comp) (j : Jumper) : (c.update j).jumpers.map (·.bib) = c.jumpers.map (·.bib) := by
  unfold Comp.update
  rw [List.map_map]
  apply List.map_congr_left
  intro k _
  simp only [Function.comp_apply]
  split
  · next e => simpa using (beq_iff_eq.1 e).symm
  · rfl

theorem logTrial_WF (c : Comp) (hw : WF c) (b : Nat) (t : Trial) (j' : Jumper) : WF (logTrial c b t j') :=
  WF_of_same_bibs c _ (update_bibs c j') (List.Perm.refl _) hw

theorem rankj_WF (c : Comp) (h : WF c) : WF (rankj c) :=
  WF_of_map c _ _ (rankj_jumpers c h) (fun _ => rfl) (by rw [rankj_ranked_list]; exact sortRanked_perm c c.ranked) h

end AthlibVerif.HJ
