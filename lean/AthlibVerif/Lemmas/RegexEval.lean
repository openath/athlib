import AthlibVerif.Lemmas.RegexSound
/-!
# An emptiness check the kernel evaluates cheaply

`isEmptyLang` is correct and slow under the kernel: it takes all `nsym+1` derivatives of every state, though a
word of the state can begin with few symbols only.  For "every throws code starts with an entry of
`FIELD_SORT_ORDER`" that is 42 states and 2 688 derivatives, 248 of them by a symbol some word begins with.

`emptyK` (defined in `Checks/Regex.lean`, all that the obligations import) explores the same automaton with the
derivatives by the symbols of `first` only (the kernel decides the example in 27 000 000 heartbeats with it, in
63 000 000 with `isEmptyLang`); it is sound by the same argument (`closure_closed`, `empty_of_closed`), not by agreement
with `isEmptyLang`.
-/
namespace AthlibVerif.RE

theorem first_spec (all x : Nat) (hx : all.testBit x = true) (r : RE) :
    ∀ w, lang r (x :: w) → (first all r).testBit x = true := by
  induction r with
  | empty => intro w h; exact h.elim
  | eps => intro w h; simp [lang] at h
  | cls m =>
    intro w h
    obtain ⟨y, hy, hm⟩ := h
    simp only [List.cons.injEq] at hy
    rw [hy.1]; exact hm
  | cat a b iha ihb =>
    rintro w ⟨u, v, huv, hu, hv⟩
    simp only [first]
    cases u with
    | nil =>
      rw [if_pos ((nullable_iff a).2 hu), Nat.testBit_or, ihb w (by simpa using huv ▸ hv), Bool.or_true]
    | cons y u' =>
      simp only [List.cons_append, List.cons.injEq] at huv
      have := iha u' (huv.1 ▸ hu)
      split
      · rw [Nat.testBit_or, this, Bool.true_or]
      · exact this
  | alt a b iha ihb =>
    intro w h
    simp only [first, Nat.testBit_or, Bool.or_eq_true]
    exact h.imp (iha w) (ihb w)
  | star a iha =>
    intro w h
    obtain ⟨u, v, _, hu, _⟩ := (starL_cons_iff _ x w).1 h
    exact iha u hu
  | and a b iha ihb =>
    intro w h
    simp only [first, Nat.testBit_and, Bool.and_eq_true]
    exact ⟨iha w h.1, ihb w h.2⟩
  | not a _ => intro w _; exact hx

theorem mem_succs (r : RE) (f : Nat) (y : Nat) (hf : f.testBit y = true) :
    ∀ x acc, y < x → deriv y r ∈ succs r f x acc := by
  have mono : ∀ x acc d, d ∈ acc → d ∈ succs r f x acc := by
    intro x
    induction x with
    | zero => intro acc d h; exact h
    | succ x ih =>
      intro acc d h
      apply ih
      split
      · exact List.mem_cons_of_mem _ h
      · exact h
  intro x
  induction x with
  | zero => intro acc h; omega
  | succ x ih =>
    intro acc h
    by_cases hy : y = x
    · subst hy
      simp only [succs, hf, if_true]
      exact mono _ _ _ List.mem_cons_self
    · exact ih _ (by omega)

theorem emptyK_sound (nsym fuel : Nat) (r : RE) (h : emptyK nsym fuel r = true) :
    ∀ w, InAlpha nsym w → ¬ lang r w := by
  simp only [emptyK] at h
  split at h
  · cases h
  · next seen hs =>
    obtain ⟨hcl, -, hr⟩ := closure_closed (fun _ _ => List.contains_iff_mem) _ fuel [r] [] seen hs (fun _ hq => nomatch hq)
    -- `x` begins a word of `q`, so it is in `first q`, so `deriv x q` is among the successors `nextK` takes
    have hstep : ∀ q ∈ seen, ∀ x ≤ nsym, ∀ w, lang q (x :: w) → deriv x q ∈ seen := by
      intro q hq x hx w hl
      have hfirst : (first (2 ^ (nsym + 1) - 1) q).testBit x = true :=
        first_spec _ x (by rw [Nat.testBit_two_pow_sub_one]; simpa using Nat.lt_succ_of_le hx) q w hl
      exact hcl q hq _ (mem_succs q _ x hfirst _ _ (Nat.lt_succ_of_le hx))
    exact fun w hw => empty_of_closed nsym seen (fun q hq => by simpa using List.all_eq_true.1 h q hq) hstep
      w hw r (hr r List.mem_cons_self)

theorem disjointK (nsym fuel : Nat) (a b : RE) (h : emptyK nsym fuel (.and a b) = true) :
    ∀ w, InAlpha nsym w → ¬ (lang a w ∧ lang b w) :=
  emptyK_sound nsym fuel _ h

theorem subsetK (nsym fuel : Nat) (a b : RE) (h : emptyK nsym fuel (.and a (.not b)) = true) :
    ∀ w, InAlpha nsym w → lang a w → lang b w :=
  fun w hw ha => Classical.byContradiction fun hb => emptyK_sound nsym fuel _ h w hw ⟨ha, hb⟩

end AthlibVerif.RE
