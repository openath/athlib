import AthlibVerif.Lemmas.RankOrder
import AthlibVerif.Lemmas.CardShape
/-!
# Trials of different athletes commute

If, from a state satisfying the invariants of every reachable state, athlete `b1`'s trial and then athlete
`b2`'s trial are both accepted, then so are they in the other order, and the two outcomes differ only in the order
of the ranked list (and of the log): same records incl. places, same heights, same state.

The second athlete was in and not done before the first one's trial, so `_rank` in between only re-numbered the
places (`rank_eq_rankj`), and while the competition is under way a trial does not look at the places
(`trial_modPlace`): either order is the two trials taken one after the other without ranking in between, followed by
`_rank` — and those two states have the same records (`update_comm`).

The file ends with `WonInv`, one of the invariants `trial_commute` asks for (a winner is declared only with exactly one
athlete left), and its preservation by every accepted call (`Tail.wonInv`, `WonInv.accepts`).
-/
namespace AthlibVerif.HJ
open AthlibVerif.Ranking

theorem allX_no_o (cell : List Trial) (h : allX cell = true) : cell.contains .o = false := by
  unfold allX at h
  cases hc : cell.contains Trial.o with
  | false => rfl
  | true =>
    have hm : Trial.o ∈ cell := by simpa using hc
    have := List.all_eq_true.1 h _ hm
    simp at this

/-- While somebody still in has not cleared the current height (`hno`: no `Closes.oneLeft`), `_rank` only re-numbers. -/
theorem rank_eq_rankj_of (c0 : Comp) (hw : WF c0) (w : Jumper) (hm : w ∈ c0.jumpers) (hal : w.eliminated = false)
    (hno : w.card.length = c0.heights.length → (w.card.getLast?.getD []).contains Trial.o = false) :
    rank c0 = rankj c0 := by
  have hw' : ({ w with place := 1 + (c0.jumpers.filter (fun k => Key.lt k.key w.key)).length } : Jumper) ∈
      (rankj c0).alive := by
    rw [Comp.alive, rankj_jumpers c0 hw]
    exact List.mem_filter.2 ⟨List.mem_map.2 ⟨w, hm, rfl⟩, by simp [hal]⟩
  have hnone : (rankj c0).alive ≠ [] := fun e => by
    rw [e] at hw'
    cases hw'
  rw [rank_eq_tail]
  have ht := rankTail_cases (rankj c0)
  generalize rankTail (rankj c0) = r at ht ⊢
  cases ht with
  | open_ => rfl
  | close hc =>
    cases hc with
    | oneLeft x ha hl ho =>
      rw [ha] at hw'
      obtain rfl := List.mem_singleton.1 hw'
      rw [(rankj_frame c0).2.1] at hl
      rw [hno hl] at ho
      cases ho
    | leader ha => exact absurd ha hnone
    | drawn ha => exact absurd ha hnone
  | jumpoff ha => exact absurd ha hnone

theorem rank_eq_rankj (c0 : Comp) (hw : WF c0) (w : Jumper) (hm : w ∈ c0.jumpers) (hal : w.eliminated = false)
    (hnd : w.dismissed = false) (hfl : FlagInv c0.heights w) : rank c0 = rankj c0 :=
  rank_eq_rankj_of c0 hw w hm hal (fun hc => allX_no_o _ (padCard_of_full _ _ hc ▸ hfl.openCell hal hnd))

def WonInv (c : Comp) : Prop := c.phase = .won → (c.jumpers.filter (fun j => !j.eliminated)).length ≤ 1

theorem actCore_place (j : Jumper) (p : Nat) (hc : Nat) (h : Int) (t : Trial) :
    ({ j with place := p } : Jumper).actCore hc h t = { j.actCore hc h t with place := p } := by
  cases t <;> simp only [Jumper.actCore] <;> (try split) <;> rfl

theorem update_find_other (c : Comp) (j' : Jumper) (b : Nat) (hne : j'.bib ≠ b) : (c.update j').find b = c.find b := by
  unfold Comp.find Comp.update
  rw [find_map _ _ (fun k => by split <;> simp_all) b]
  cases hf : c.jumpers.find? (·.bib == b) with
  | none => rfl
  | some k =>
    have hk : k.bib = b := by simpa using List.find?_some hf
    show some (if k.bib == j'.bib then j' else k) = some k
    rw [if_neg (by rw [hk]; simpa using Ne.symm hne)]

theorem mem_update_other (c : Comp) (j' x : Jumper) (hx : x ∈ c.jumpers) (hne : x.bib ≠ j'.bib) :
    x ∈ (c.update j').jumpers := by
  unfold Comp.update
  simp only
  refine List.mem_map.2 ⟨x, hx, ?_⟩
  have : (x.bib == j'.bib) = false := by simpa using hne
  simp [this]

theorem mem_update_cases (c : Comp) (j' k : Jumper) (hk : k ∈ (c.update j').jumpers) : k = j' ∨ k ∈ c.jumpers := by
  unfold Comp.update at hk
  obtain ⟨x, hx, rfl⟩ := List.mem_map.1 hk
  split
  · exact Or.inl rfl
  · exact Or.inr hx

theorem act_modPlace {j j' : Jumper} (h : ModPlace j j') (hc : Nat) (hgt : Int) (t : Trial) (k : Jumper)
    (hact : j.act hc hgt t = some k) : ∃ k', j'.act hc hgt t = some k' ∧ ModPlace k k' := by
  obtain ⟨⟨he, hd, hl⟩, rfl⟩ := act_eq_some.1 hact
  have e : ∀ x : Jumper, noPlace (x.actCore hc hgt t) = (noPlace x).actCore hc hgt t :=
    fun x => (actCore_place x 0 hc hgt t).symm
  have hcard : j'.card = j.card := (congrArg Jumper.card h :)
  have hlim : j'.roundLim = j.roundLim := (congrArg Jumper.roundLim h :)
  refine ⟨_, act_eq_some.2 ⟨⟨(congrArg Jumper.eliminated h :).trans he, (congrArg Jumper.dismissed h :).trans hd, ?_⟩, rfl⟩, ?_⟩
  · rw [hcard, hlim]
    exact hl
  · show noPlace _ = noPlace _
    rw [e, e, h]

theorem PairedBy.logTrial {S : Jumper → Jumper → Prop} {ps : List (Jumper × Jumper)} {c c' : Comp} {k k' : Jumper}
    (h : PairedBy S ps (c.update k) (c'.update k')) (b b' : Nat) (t t' : Trial) :
    PairedBy S ps (logTrial c b t k) (logTrial c' b' t' k') :=
  ⟨h.left, h.right, h.sim, h.phase, h.heights, h.ranked⟩

/-- `hph`: in `won` and `drawn` who may jump depends on the place (`trialAllowed`).  The outcomes agree in the places
    too because `_rank` assigns every place anew. -/
theorem trial_modPlace {ps : List (Jumper × Jumper)} {a b : Comp} (h : PairedBy ModPlace ps a b) (hw : WF a)
    (hph : a.phase = .started ∨ a.phase = .jumpoff) (x : Nat) (t : Trial) (hok : (step a (.trial x t)).2 = .ok) :
    (step b (.trial x t)).2 = .ok ∧ SameButRanked (step a (.trial x t)).1 (step b (.trial x t)).1 := by
  obtain ⟨j, j', hf, _, hne, hact, hs⟩ := accepted_trial a x t hok
  obtain ⟨p0, hp0, rfl, hf'⟩ := h.find ModPlace.bib (h.wf ModPlace.bib hw) x j hf
  obtain ⟨k', hact', hk⟩ := act_modPlace (h.sim p0 hp0) _ _ t j' hact
  rw [← h.heights] at hact' hne
  have hta : trialAllowed b p0.2 = true := trialAllowed_underway _ (h.phase ▸ hph)
  rw [hs, trial_accepts b x t p0.2 k' hf' hta hne hact']
  obtain ⟨ps', hP, hpl⟩ := rank_pairedBy (modPlace_compat _) ((h.update ModPlace.bib j' k' hk).logTrial x x t t) rfl
    (logTrial_WF a hw x t j')
  exact ⟨rfl, hP.same hpl⟩

theorem update_comm (c : Comp) (j k : Jumper) (hne : j.bib ≠ k.bib) :
    ((c.update j).update k).jumpers = ((c.update k).update j).jumpers := by
  simp only [Comp.update, List.map_map]
  refine List.map_congr_left (fun x _ => ?_)
  simp only [Function.comp_apply]
  by_cases e1 : x.bib = j.bib
  · simp [e1, hne]
  · by_cases e2 : x.bib = k.bib
    · simp [e2, Ne.symm hne]
    · simp [e1, e2]

theorem trial_commute (c : Comp) (hw : WF c) (hf : AllFlags c) (hwon : WonInv c)
    (hdr : c.phase = .drawn → ∀ j ∈ c.jumpers, j.eliminated = true)
    (b1 b2 : Nat) (t1 t2 : Trial) (hne : b1 ≠ b2)
    (h1 : (step c (.trial b1 t1)).2 = .ok)
    (h2 : (step (step c (.trial b1 t1)).1 (.trial b2 t2)).2 = .ok) :
    (step c (.trial b2 t2)).2 = .ok ∧ (step (step c (.trial b2 t2)).1 (.trial b1 t1)).2 = .ok ∧
    SameButRanked (step (step c (.trial b1 t1)).1 (.trial b2 t2)).1 (step (step c (.trial b2 t2)).1 (.trial b1 t1)).1 := by
  obtain ⟨j1, j1', hf1, ha1, hh, hact1, hs1⟩ := accepted_trial c b1 t1 h1
  rw [hs1] at h2 ⊢
  simp only at h2 ⊢
  obtain ⟨hm1, hb1⟩ := find_some_mem c b1 j1 hf1
  obtain ⟨he1, hd1, _⟩ := act_some j1 j1' _ _ t1 hact1
  have hb1' : j1'.bib = b1 := by rw [act_core j1 j1' _ _ t1 hact1, actCore_bib, hb1]
  have hwL1 := logTrial_WF c hw b1 t1 j1'
  -- the record of `b2` in `c`: the one the second trial acted on comes from it, and was neither out nor done
  obtain ⟨j2c, j2c', hf2c, _, _, hact2c, _⟩ := accepted_trial _ b2 t2 h2
  obtain ⟨_, hd2c, _⟩ := act_some j2c j2c' _ _ t2 hact2c
  obtain ⟨hm2c, hb2c⟩ := find_some_mem _ b2 j2c hf2c
  obtain ⟨⟨f, hfj, hrr⟩, _⟩ := rank_records _ hwL1
  rw [hfj] at hm2c
  obtain ⟨j2, hk, rfl⟩ := List.mem_map.1 hm2c
  have hb2 : j2.bib = b2 := by rw [← (hrr j2).bib, hb2c]
  have hd2 : j2.dismissed = false := by rw [← (hrr j2).dismissed, hd2c]
  have hm2 : j2 ∈ c.jumpers := by
    rcases mem_update_cases c j1' j2 hk with e | e
    · exact absurd (by rw [← hb1', ← e, hb2]) hne
    · exact e
  have he2 : j2.eliminated = false := by
    cases hel : j2.eliminated with
    | false => rfl
    | true =>
      have := (hf j2 hm2).outDone hel
      rw [hd2] at this
      cases this
  have hf2 : c.find b2 = some j2 := by rw [← hb2]; exact find_of_mem c hw.1 j2 hm2
  -- with two athletes still in, the competition is under way
  have hphase : c.phase = .started ∨ c.phase = .jumpoff := by
    rcases trialAllowed_phase ha1 with hp | hp | hp | hp
    · exact Or.inl hp
    · exact Or.inr hp
    · have := hwon hp
      have := two_le_filter c.jumpers (fun j => !j.eliminated) j1 j2 hm1 hm2 (fun e => hne (by rw [← hb1, e, hb2]))
        (by simp [he1]) (by simp [he2])
      omega
    · have := hdr hp j1 hm1
      rw [he1] at this
      cases this
  -- so `_rank` after the first trial only re-numbered, and the second trial is the one from the state before that
  have hr1 : rank (logTrial c b1 t1 j1') = rankj (logTrial c b1 t1 j1') :=
    rank_eq_rankj _ hwL1 j2 (mem_update_other c j1' j2 hm2 (by rw [hb2, hb1']; exact hne.symm)) he2 hd2 (hf j2 hm2)
  rw [hr1] at h2 ⊢
  obtain ⟨hokL1, hsame1⟩ := trial_modPlace (rankj_modPlace _ hwL1).symm (rankj_WF _ hwL1)
    (by rw [(rankj_frame _).2.2.1]; exact hphase) b2 t2 h2
  obtain ⟨k2, j2', hfL1, _, _, hact2, hsL1⟩ := accepted_trial _ b2 t2 hokL1
  obtain rfl : j2 = k2 :=
    Option.some.inj (hf2.symm.trans ((update_find_other c j1' b2 (by rw [hb1']; exact hne)).symm.trans hfL1))
  have hb2' : j2'.bib = b2 := by rw [act_core _ j2' _ _ t2 hact2, actCore_bib, hb2]
  -- the other order: `b2`'s trial is accepted from `c`, `_rank` after it only re-numbers, and `b1`'s trial follows
  have hs2 := trial_accepts c b2 t2 j2 j2' hf2 (trialAllowed_underway j2 hphase) hh hact2
  have hwL2 := logTrial_WF c hw b2 t2 j2'
  have hr2 : rank (logTrial c b2 t2 j2') = rankj (logTrial c b2 t2 j2') :=
    rank_eq_rankj _ hwL2 j1 (mem_update_other c j2' j1 hm1 (by rw [hb1, hb2']; exact hne)) he1 hd1 (hf j1 hm1)
  have hsL2 := trial_accepts (logTrial c b2 t2 j2') b1 t1 j1 j1'
    ((update_find_other c j2' b1 (by rw [hb2']; exact hne.symm)).trans hf1) ha1 hh hact1
  obtain ⟨hok21, hsame2⟩ := trial_modPlace (rankj_modPlace _ hwL2) hwL2 hphase b1 t1 (by rw [hsL2])
  rw [hs2, hr2]
  refine ⟨rfl, hok21, hsame1.trans (SameButRanked.trans ?_ hsame2)⟩
  -- what is left: the two marks entered in either order, then ranked; the records are the same (`update_comm`)
  rw [hsL1, hsL2]
  exact rank_same _ _ (logTrial_WF _ hwL1 b2 t2 j2')
    ⟨update_comm c j1' j2' (by rw [hb1', hb2']; exact hne), rfl, rfl, List.Perm.refl _⟩

/-- `won` is only declared with exactly one athlete left -/
theorem Tail.wonInv {cr c' : Comp} (ht : Tail cr c') (h : cr.phase = .won → cr.alive.length ≤ 1) : WonInv c' := by
  cases ht with
  | open_ => exact h
  | close hc =>
    cases hc with
    | oneLeft w ha =>
      intro _
      show cr.alive.length ≤ 1
      rw [ha]
      exact Nat.le_refl 1
    | leader => exact fun hq => (by cases hq)
    | drawn => exact fun hq => (by cases hq)
  | jumpoff =>
    intro hq
    rw [(rankj_frame _).2.2.1] at hq
    cases hq

theorem WonInv.accepts {c c' : Comp} {op : Op} (hw : WF c) (h : WonInv c) (ha : Accepts c op c') : WonInv c' := by
  cases ha with
  | add b hp hf =>
    intro hq
    rw [show (addResult c b).phase = c.phase from rfl, hp] at hq
    cases hq
  | bar x hb =>
    intro hq
    rw [barResult_phase] at hq
    split at hq
    · cases hq
    · rw [barResult_jumpers, List.filter_map, List.length_map]
      exact h hq
  | trial b t j hf _ _ he =>
    obtain ⟨F, _, _, _, hal⟩ := alive_rankj_logTrial c hw b t j hf he
      (fun k => k.actCore c.heights.length (c.heights.getLast?.getD 0) t) (fun k => actCore_bib k _ _ t)
    refine (rankTail_cases _).wonInv (fun hq => ?_)
    rw [(rankj_frame _).2.2.1] at hq
    rw [hal]
    exact Nat.le_trans (List.length_filter_le _ _) (by rw [List.length_map]; exact h hq)

end AthlibVerif.HJ
