import AthlibVerif.Lemmas.Places
/-!
# Reachable states of the high-jump model

`Reachable`: produced from the empty competition by any finite sequence of calls, accepted or refused; with the two
invariants of reachable states that need no other (`DrawnInv`, `StartedInv`).  These declarations carry the namespace
`Props.C02` because the statements of C02, C03 and C08 name them; they stand here because the lemma files below
those (Lemmas/Interleave and what rests on it) need them too.
-/
namespace AthlibVerif.Props.C02
open AthlibVerif AthlibVerif.HJ

inductive Reachable : Comp → Prop
  | init : Reachable {}
  | step (c : Comp) (op : Op) : Reachable c → Reachable (step c op).1

theorem Reachable.of_accepts {P : Comp → Prop} {c : Comp} (h : Reachable c) (h0 : P {})
    (hs : ∀ c op c', Reachable c → P c → Accepts c op c' → P c') : P c := by
  induction h with
  | init => exact h0
  | step c op hr ih => exact step_preserves op ih (fun c' => hs c op c' hr ih)

/-- in a drawn competition everybody is out -/
def DrawnInv (c : Comp) : Prop := c.phase = .drawn → ∀ j ∈ c.jumpers, j.eliminated = true

/-- heights exist exactly when the competition has left `scheduled` -/
def StartedInv (c : Comp) : Prop := c.heights = [] ↔ c.phase = .scheduled

theorem inv_accepts {c c' : Comp} {op : Op} (h1 : DrawnInv c) (h2 : StartedInv c) (ha : Accepts c op c') :
    DrawnInv c' ∧ StartedInv c' := by
  cases ha with
  | add b hp hf =>
    have hh := h2.2 hp
    refine ⟨fun hd => ?_, ?_⟩
    · rw [show (addResult c b).phase = c.phase from rfl, hp] at hd
      cases hd
    · exact ⟨fun _ => hp, fun _ => hh⟩
  | bar x hb =>
    refine ⟨fun hd j' hj' => ?_, ⟨fun h0 => ?_, fun hs => ?_⟩⟩
    · rw [barResult_phase] at hd
      split at hd
      · cases hd
      · rcases hb.1 with e | e | e | e
        all_goals rw [e] at hd; cases hd
    · exact absurd h0 (by simp [barResult])
    · rw [barResult_phase] at hs
      split at hs
      · cases hs
      · next hn => exact absurd hs hn
  | trial b t j hf hta hh he =>
    have hne : c.phase ≠ .drawn := fun hd => by
      rw [h1 hd j (find_some_mem c b j hf).1] at he
      cases he
    refine ⟨(rankTail_cases _).drawn (by rw [(rankj_frame _).2.2.1]; exact hne),
      ⟨fun h0 => ?_, fun hs => absurd hs (trialResult_ne_scheduled b t _ hta)⟩⟩
    rw [trialResult_heights] at h0
    exact absurd h0 hh

theorem inv_reachable (c : Comp) (h : Reachable c) : DrawnInv c ∧ StartedInv c :=
  h.of_accepts ⟨fun h => (by cases h), by unfold StartedInv; simp⟩ (fun _ _ _ _ ih => inv_accepts ih.1 ih.2)

end AthlibVerif.Props.C02
