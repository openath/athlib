import AthlibVerif.Model.Codes
import AthlibVerif.Lemmas.ListFacts
import AthlibVerif.Checks.Codes
/-!
# `get_distance`, piece by piece, and where it can fail

`getDistance_succ` reads the model's `getDistance` as: token, names, then `relayDistance` or `numberDistance` (with
`unitDistance` for the unit suffix).  What the walk uses of the alphabet and of the regenerated patterns is said of
characters and strings in `CodeFacts` (proved from the evaluated checkers in `Lemmas/RelayLeg.lean`); no regular expression
occurs here.  The number taken off a token is its longest prefix `\d+(\.\d*)?` (`CodeFacts.leading`): a text `float()`
accepts.  Hence `get_distance` can only fail in `split()[0]`, on a string without a token, and inside the relay branch
(`getDistance_ok`, `getDistance_nonrelay_ok`); there, on `int()` of the number of legs or on a leg without a distance
(`relayDistance_ok`).
-/
namespace AthlibVerif
namespace Codes
open RE GRE

/-- `PAT_LEADING_FLOAT.match(d) or PAT_LEADING_DIGITS.match(d)`: where the number ends -/
def leadingEnd (d : Str) : Option Nat :=
  match pyMatchEnd "PAT_LEADING_FLOAT" d with
  | some e => some e
  | none => pyMatchEnd "PAT_LEADING_DIGITS" d

/-- metres of the quantity `n / den` in the unit `remains` (`None` for an unknown unit) -/
def unitDistance (n den : Nat) (remains : Str) : Option Nat :=
  if remains.isEmpty then some (1 * n / (1 * den))
  else if strIn (lower remains) ["sc", "h", "w"] || strIn remains ["m", "mH"] then some (1 * n / (1 * den))
  else if strIn remains ["k", "K", "km"] then some (1000 * n / (1 * den))
  else if strIn (lower remains) ["kw", "kmw"] then some (1000 * n / (1 * den))
  else if strIn remains ["M", "Mi", "MI", "MT"] then some (1609 * n / (1 * den))
  else if strIn remains ["Y", "y", "YD", "yd"] then some (9144 * n / (10000 * den))
  else none

/-- the branch for a token that is no relay: a number and a unit, or `None` -/
def numberDistance (d : Str) : Except PyErr (Option Nat) :=
  match leadingEnd d with
  | none => .ok none
  | some e =>
    match decimalOf (dropEndWhileL (· == '.') (d.take e)) with
    | none => .error .valueError
    | some (n, den) => .ok (unitDistance n den (d.drop e))

/-- the relay branch, given the text of the number of legs, the upper-cased leg `g2` and the answer `leg` of the
    recursive call for `g2` -/
def relayDistance (legs g2 : Str) (leg : Except PyErr (Option Nat)) : Except PyErr (Option Nat) :=
  if strIn g2 ["RELAY", "DMR", "SDMR"] then .ok none
  else if strEq g2 "SMR" then .ok (some 1600)
  else if strEq g2 "SSMR" then .ok (some 800)
  else if strEq g2 "SWR" then .ok (some 1000)
  else match pyInt legs, leg with
    | .ok legs, .ok (some leg) => .ok (some (legs * leg))
    | .ok _, .ok none => .error .typeError
    | .error e, _ => .error e
    | _, .error e => .error e

theorem getDistance_succ (fuel : Nat) (d0 : Str) :
    getDistance (fuel + 1) d0 =
      match firstToken d0 with
      | .error e => .error e
      | .ok d =>
        if strEq d "XC" then .ok none
        else if strEq d "MAR" then .ok (some 42195)
        else if strEq d "HM" then .ok (some 21098)
        else if strIn d ["MILE", "CHUNDER-MILE"] then .ok (some 1609)
        else match pyMatch "PAT_RELAYS" d with
          | some rc => relayDistance ((group d rc 1).getD []) (upper ((group d rc 2).getD []))
              (getDistance fuel (upper ((group d rc 2).getD [])))
          | none => numberDistance d := by
  -- the model returns `.ok` in every arm of the unit ladder; `unitDistance` has it outside
  simp only [getDistance, relayDistance, numberDistance, leadingEnd, unitDistance,
    apply_ite (Except.ok (ε := PyErr) (α := Option Nat))]
  rfl

theorem numberDistance_ok (d : Str)
    (hqty : ∀ e, leadingEnd d = some e → ∃ r, decimalOf (dropEndWhileL (· == '.') (d.take e)) = some r) :
    ∃ r, numberDistance d = .ok r := by
  unfold numberDistance
  cases he : leadingEnd d with
  | none => exact ⟨none, rfl⟩
  | some e =>
    obtain ⟨r, hr⟩ := hqty e he
    exact ⟨unitDistance r.1 r.2 (d.drop e), by simp only [hr]⟩

theorem relayDistance_ok (legs g2 : Str) (leg : Except PyErr (Option Nat)) (hlegs : ∃ n, pyInt legs = .ok n)
    (hleg : strIn g2 ["RELAY", "DMR", "SDMR"] = true ∨ strEq g2 "SMR" = true ∨ strEq g2 "SSMR" = true ∨
      strEq g2 "SWR" = true ∨ ∃ m, leg = .ok (some m)) : ∃ r, relayDistance legs g2 leg = .ok r := by
  unfold relayDistance
  obtain ⟨n, hn⟩ := hlegs
  -- the failing arms are `int(legs)` raising (`hn` excludes it) and a leg that is `None` or raises (`hleg`, once no name matches)
  repeat' split
  all_goals first | exact ⟨_, rfl⟩ | simp_all

theorem getDistance_ok (fuel : Nat) (d0 d : Str) (ht : firstToken d0 = .ok d)
    (hrelay : ∀ rc, pyMatch "PAT_RELAYS" d = some rc → ∃ r, relayDistance ((group d rc 1).getD [])
      (upper ((group d rc 2).getD [])) (getDistance fuel (upper ((group d rc 2).getD []))) = .ok r)
    (hnumber : pyMatch "PAT_RELAYS" d = none → ∃ r, numberDistance d = .ok r) :
    ∃ r, getDistance (fuel + 1) d0 = .ok r := by
  rw [getDistance_succ]
  simp only [ht]
  repeat' split
  all_goals first | exact ⟨_, rfl⟩ | exact hrelay _ ‹_› | exact hnumber ‹_›

theorem getDistance_number (fuel : Nat) (d : Str) (e n den : Nat) (ht : firstToken d = .ok d)
    (h1 : strEq d "XC" = false) (h2 : strEq d "MAR" = false) (h3 : strEq d "HM" = false)
    (h4 : strIn d ["MILE", "CHUNDER-MILE"] = false) (hr : pyMatch "PAT_RELAYS" d = none)
    (he : leadingEnd d = some e) (hdec : decimalOf (dropEndWhileL (· == '.') (d.take e)) = some (n, den)) :
    getDistance (fuel + 1) d = .ok (unitDistance n den (d.drop e)) := by
  rw [getDistance_succ]
  simp only [ht, h1, h2, h3, h4, hr, numberDistance, he, hdec, Bool.false_eq_true, if_false]

/-- end of the longest prefix `\d+(\.\d*)?`, for a string that starts with a digit -/
def numEnd (d : Str) : Option Nat :=
  let n := (d.takeWhile isDigitU).length
  if n = 0 then none
  else if d[n]? = some '.' then some (n + 1 + ((d.drop (n + 1)).takeWhile isDigitU).length)
  else some n

/-- `digits [. digits] [H|M|K]`, cut into its parts: what the upper-cased leg of a relay is when it is no name -/
def NumLeg (u : Str) : Prop :=
  ∃ D1 D2 sfx : Str, D1 ≠ [] ∧ (∀ c ∈ D1, isDigitU c = true) ∧ (∀ c ∈ D2, isDigitU c = true) ∧
    (sfx = [] ∨ sfx = ['H'] ∨ sfx = ['M'] ∨ sfx = ['K']) ∧ (u = D1 ++ sfx ∨ (D2 ≠ [] ∧ u = D1 ++ '.' :: (D2 ++ sfx)))

/-- What the walk through `get_distance` uses of the alphabet and of the regenerated patterns, said of characters and
    strings; `CodeFacts.of_checks` (`Lemmas/RelayLeg.lean`) proves it from the checkers `Oblig/C10/Groups.lean` evaluates. -/
structure CodeFacts : Prop where
  /-- `int()` reads every non-empty run of digits, of any script -/
  int_digits : ∀ t : Str, t ≠ [] → (∀ c ∈ t, isDigitU c = true) → ∃ n, pyInt t = .ok n
  point : isDigitU '.' = false
  /-- the first letters of the names `get_distance` compares a token with, and the unit letters of a leg -/
  letters : ∀ c ∈ ['X', 'M', 'H', 'C', 'K'], isDigitU c = false
  /-- the leading-number patterns take the longest prefix `\d+(\.\d*)?` -/
  leading : ∀ d, leadingEnd d = numEnd d
  not_relay : ∀ s : Str, (∀ c ∈ s, c ≠ 'x' ∧ c ≠ 'X') → pyMatch "PAT_RELAYS" s = none
  legs : ∀ s rc, pyMatch "PAT_RELAYS" s = some rc → ∃ n, pyInt ((group s rc 1).getD []) = .ok n
  /-- the leg always takes part; upper-cased it is a token of its own, no relay, and a number with a unit letter or a name -/
  leg : ∀ s rc, pyMatch "PAT_RELAYS" s = some rc → ∃ t, group s rc 2 = some t ∧ upper t ≠ [] ∧
    (∀ c ∈ upper t, isSpaceC c = false ∧ c ≠ 'x' ∧ c ≠ 'X') ∧ (NumLeg (upper t) ∨ upper t ∈ legNames)

theorem CodeFacts.digit_ne_point (F : CodeFacts) (c : Char) (hc : isDigitU c = true) : c ≠ '.' := by
  rintro rfl
  rw [F.point] at hc; cases hc

theorem takeWhile_digits_append (D rest : Str) (hD : ∀ c ∈ D, isDigitU c = true)
    (hrest : ∀ c, rest.head? = some c → isDigitU c = false) : (D ++ rest).takeWhile isDigitU = D := by
  rw [List.takeWhile_append_of_pos hD]
  cases rest with
  | nil => simp
  | cons c cs => simp [hrest c rfl]

theorem numEnd_int (D rest : Str) (hne : D ≠ []) (hD : ∀ c ∈ D, isDigitU c = true)
    (hrest : ∀ c, rest.head? = some c → isDigitU c = false ∧ c ≠ '.') : numEnd (D ++ rest) = some D.length := by
  have hlen := List.length_pos_iff.2 hne
  simp only [numEnd, takeWhile_digits_append D rest hD (fun c hc => (hrest c hc).1)]
  rw [if_neg (by omega), if_neg]
  rw [List.getElem?_append_right (Nat.le_refl _), Nat.sub_self, ← List.head?_eq_getElem?]
  intro h
  exact (hrest _ h).2 rfl

theorem numEnd_float (F : CodeFacts) (D1 D2 rest : Str) (hne : D1 ≠ []) (hD1 : ∀ c ∈ D1, isDigitU c = true)
    (hD2 : ∀ c ∈ D2, isDigitU c = true) (hrest : ∀ c, rest.head? = some c → isDigitU c = false) :
    numEnd (D1 ++ '.' :: (D2 ++ rest)) = some (D1.length + 1 + D2.length) := by
  have hlen := List.length_pos_iff.2 hne
  have htw := takeWhile_digits_append D1 ('.' :: (D2 ++ rest)) hD1 (by
    intro c hc
    simp only [List.head?_cons, Option.some.injEq] at hc
    subst hc
    exact F.point)
  simp only [numEnd, htw]
  rw [if_neg (by omega), if_pos (by simp)]
  simp [takeWhile_digits_append D2 rest hD2 hrest]

theorem dropEndWhileL_concat_of_neg (p : Char → Bool) (s : Str) (c : Char) (hc : p c = false) :
    dropEndWhileL p (s ++ [c]) = s ++ [c] := by
  simp [dropEndWhileL, hc]

theorem dropEndWhileL_concat_of_pos (p : Char → Bool) (s : Str) (c : Char) (hc : p c = true) :
    dropEndWhileL p (s ++ [c]) = dropEndWhileL p s := by
  simp [dropEndWhileL, hc]

/-- the model drops final points before `decimalOf` (its reading of `float('1.')`); a text that ends in a digit keeps its end -/
theorem dropEnd_digit_last (F : CodeFacts) (s D : Str) (hne : D ≠ []) (hD : ∀ c ∈ D, isDigitU c = true) :
    dropEndWhileL (· == '.') (s ++ D) = s ++ D := by
  have hlast : (D.getLast hne == '.') = false := by
    simpa using F.digit_ne_point _ (hD _ (List.getLast_mem hne))
  rw [← List.dropLast_concat_getLast hne, ← List.append_assoc]
  exact dropEndWhileL_concat_of_neg _ _ _ hlast

theorem decimalOf_digits (F : CodeFacts) (D : Str) (hne : D ≠ []) (hD : ∀ c ∈ D, isDigitU c = true) :
    ∃ r, decimalOf D = some r := by
  obtain ⟨n, hn⟩ := F.int_digits D hne hD
  obtain ⟨h1, h2⟩ := takeWhile_of_all (bne_of_not_mem fun h => F.digit_ne_point _ (hD _ h) rfl)
  unfold decimalOf
  simp only [h1, h2, hn, List.drop_nil, List.isEmpty_nil, if_true]
  exact ⟨_, rfl⟩

theorem decimalOf_float (F : CodeFacts) (D1 D2 : Str) (hne1 : D1 ≠ []) (hne2 : D2 ≠ [])
    (hD1 : ∀ c ∈ D1, isDigitU c = true) (hD2 : ∀ c ∈ D2, isDigitU c = true) :
    ∃ r, decimalOf (D1 ++ '.' :: D2) = some r := by
  obtain ⟨n1, hn1⟩ := F.int_digits D1 hne1 hD1
  obtain ⟨n2, hn2⟩ := F.int_digits D2 hne2 hD2
  obtain ⟨h1, h2⟩ := takeWhile_ne_append (fun h => F.digit_ne_point _ (hD1 _ h) rfl) D2
  have he : D2.isEmpty = false := by cases D2 <;> simp_all
  unfold decimalOf
  simp only [h1, h2, hn1, hn2, List.drop_succ_cons, List.drop_zero, he, Bool.false_eq_true, if_false]
  exact ⟨_, rfl⟩

/-- `qty`: the text `get_distance` hands to `float()` (`qty_text`), here `digits` -/
theorem qty_digits (F : CodeFacts) (D : Str) (hne : D ≠ []) (hD : ∀ c ∈ D, isDigitU c = true) :
    ∃ r, decimalOf (dropEndWhileL (· == '.') D) = some r := by
  have := dropEnd_digit_last F [] D hne hD
  simp only [List.nil_append] at this
  rw [this]
  exact decimalOf_digits F D hne hD

/-- `digits . digits`; the second run may be empty: `1.` is read as `1` -/
theorem qty_float (F : CodeFacts) (D1 D2 : Str) (hne : D1 ≠ []) (hD1 : ∀ c ∈ D1, isDigitU c = true)
    (hD2 : ∀ c ∈ D2, isDigitU c = true) : ∃ r, decimalOf (dropEndWhileL (· == '.') (D1 ++ '.' :: D2)) = some r := by
  by_cases h2 : D2 = []
  · subst h2
    rw [dropEndWhileL_concat_of_pos _ _ _ (by simp)]
    exact qty_digits F D1 hne hD1
  · have : D1 ++ '.' :: D2 = (D1 ++ ['.']) ++ D2 := by simp
    rw [this, dropEnd_digit_last F _ D2 h2 hD2, ← this]
    exact decimalOf_float F D1 D2 hne h2 hD1 hD2

theorem qty_ok (F : CodeFacts) (d : Str) (e : Nat) (hm : leadingEnd d = some e) :
    ∃ r, decimalOf (dropEndWhileL (· == '.') (d.take e)) = some r := by
  rw [F.leading] at hm
  obtain ⟨D1, R, rfl, hD1, hR⟩ := exists_span isDigitU d
  by_cases hne : D1 = []
  · subst hne
    have : R.takeWhile isDigitU = [] := takeWhile_digits_append [] R (by simp) hR
    simp [numEnd, this] at hm
  · by_cases hdot : R.head? = some '.'
    · obtain ⟨R', rfl⟩ : ∃ R', R = '.' :: R' := by
        cases R with
        | nil => cases hdot
        | cons c cs =>
          simp only [List.head?_cons, Option.some.injEq] at hdot
          exact ⟨cs, by rw [hdot]⟩
      obtain ⟨D2, R2, rfl, hD2, hR2⟩ := exists_span isDigitU R'
      rw [numEnd_float F D1 D2 R2 hne hD1 hD2 hR2] at hm
      injection hm with hm
      subst hm
      have : D1 ++ '.' :: (D2 ++ R2) = (D1 ++ '.' :: D2) ++ R2 := by simp
      rw [this, List.take_left' (by simp; omega)]
      exact qty_float F D1 D2 hne hD1 hD2
    · rw [numEnd_int D1 R hne hD1 (fun c hc => ⟨hR c hc, by rintro rfl; exact hdot hc⟩)] at hm
      injection hm with hm
      subst hm
      rw [List.take_left' rfl]
      exact qty_digits F D1 hne hD1

theorem getDistance_nonrelay_ok (F : CodeFacts) (fuel : Nat) (d0 d : Str) (ht : firstToken d0 = .ok d)
    (hr : pyMatch "PAT_RELAYS" d = none) : ∃ r, getDistance (fuel + 1) d0 = .ok r :=
  getDistance_ok fuel d0 d ht (fun rc hm => by rw [hr] at hm; cases hm)
    (fun _ => numberDistance_ok d (fun e he => qty_ok F d e he))

end Codes
end AthlibVerif
