import AthlibVerif.Model.HJ
/-!
# The high-jump model, call by call

`_rank` and `step` as relations to take cases on: `Tail` for what `_rank` does after `_rankj`, `Accepts` for the
accepted calls with what they yield (`step_cases`).  Nothing here needs an invariant.
-/
namespace AthlibVerif.HJ

@[simp] theorem update_log (c : Comp) (j : Jumper) : (c.update j).log = c.log := rfl
@[simp] theorem update_heights (c : Comp) (j : Jumper) : (c.update j).heights = c.heights := rfl
@[simp] theorem update_phase (c : Comp) (j : Jumper) : (c.update j).phase = c.phase := rfl
@[simp] theorem update_ranked (c : Comp) (j : Jumper) : (c.update j).ranked = c.ranked := rfl
@[simp] theorem update_jumpers_length (c : Comp) (j : Jumper) : (c.update j).jumpers.length = c.jumpers.length := by
  simp [Comp.update]

theorem assignPlaces_fields (l : List Nat) : ∀ (c : Comp) (i : Nat) (prev : Option (Key × Nat)),
    ∃ js, assignPlaces c l i prev = { c with jumpers := js } ∧ js.length = c.jumpers.length := by
  induction l with
  | nil => intro c i prev; exact ⟨c.jumpers, rfl, rfl⟩
  | cons b rest ih =>
    intro c i prev
    simp only [assignPlaces]
    split
    · exact ih c (i+1) prev
    · obtain ⟨js, e, hl⟩ := ih (c.update _) (i+1) (some _)
      exact ⟨js, e, hl.trans (update_jumpers_length c _)⟩

theorem rankj_fields (c : Comp) :
    ∃ js, rankj c = { c with jumpers := js, ranked := sortRanked c c.ranked } ∧ js.length = c.jumpers.length :=
  assignPlaces_fields _ { c with ranked := sortRanked c c.ranked } 0 none

theorem rankj_frame (c : Comp) :
    (rankj c).log = c.log ∧ (rankj c).heights = c.heights ∧ (rankj c).phase = c.phase ∧
    (rankj c).jumpers.length = c.jumpers.length := by
  obtain ⟨js, e, hl⟩ := rankj_fields c
  rw [e]; exact ⟨rfl, rfl, rfl, hl⟩

theorem rankj_ranked_list (c : Comp) : (rankj c).ranked = sortRanked c c.ranked := by
  obtain ⟨js, e, _⟩ := rankj_fields c
  rw [e]

/-- The order of C02's "the state only moves forward" (`C02_phase_forward`; the table `STAGE` of tools/checks/c02.py):
    `jumpoff` and `won`, the two ways on from `started`, share a stage, and so do the two endings. -/
def stage : Phase → Nat
  | .scheduled => 0 | .started => 1 | .jumpoff => 2 | .won => 2 | .finished => 3 | .drawn => 3

def Frame (c c' : Comp) : Prop :=
  c'.log = c.log ∧ c'.heights = c.heights ∧ c'.jumpers.length = c.jumpers.length

/-- the phase after ranking: unchanged, or one of the decisions -/
def PhaseStep (p p' : Phase) : Prop :=
  p' = p ∨ p' = .jumpoff ∨ p' = .drawn ∨ p' = .finished ∨ (p' = .won ∧ (p = .started ∨ p = .won))

def rankTail (c : Comp) : Comp :=
  match c.ranked with
  | [] => c
  | r0 :: rrest =>
    match c.jumpers.filter (fun j => !j.eliminated) with
    | [] => if secondIsFirst c rrest then rankTie c else rankLeader c r0
    | [w] => rankOneLeft c w
    | _ => c

theorem rank_eq_tail (c : Comp) : rank c = rankTail (rankj c) := rfl

abbrev Comp.alive (c : Comp) : List Jumper := c.jumpers.filter (fun j => !j.eliminated)

/-- why `_rank` closes the competition, in phase `p` -/
inductive Closes (c : Comp) : Phase → Prop
  | oneLeft (w : Jumper) (ha : c.alive = [w]) (hl : w.card.length = c.heights.length)
      (ho : (w.card.getLast?.getD []).contains .o = true) :
      Closes c (if c.phase = .started ∨ c.phase = .won then .won else .finished)
  | leader {r0 : Nat} {rest : List Nat} {j0 : Jumper} (ha : c.alive = []) (hr : c.ranked = r0 :: rest)
      (h2 : secondIsFirst c rest = false) (hf : c.find r0 = some j0)
      (hn : (c.phase == .jumpoff && !j0.hasRetired) = false) : Closes c .finished
  | drawn {r0 : Nat} {rest : List Nat} (ha : c.alive = []) (hr : c.ranked = r0 :: rest)
      (h2 : secondIsFirst c rest = true) (hn : ∀ j ∈ c.jumpers, reinstated c j = false) : Closes c .drawn

/-- whom `_rank` calls back for a jump-off: the records after the call -/
inductive Recalls (c : Comp) : List Jumper → Prop
  | tie {r0 : Nat} {rest : List Nat} (hr : c.ranked = r0 :: rest) (h2 : secondIsFirst c rest = true)
      (hn : ∃ j ∈ c.jumpers, reinstated c j = true) :
      Recalls c (c.jumpers.map fun j => if reinstated c j then reinstate j else j)
  | leader {r0 : Nat} {rest : List Nat} {j0 : Jumper} (hr : c.ranked = r0 :: rest) (h2 : secondIsFirst c rest = false)
      (hf : c.find r0 = some j0) (hp : c.phase = .jumpoff) (hnr : j0.hasRetired = false) :
      Recalls c (c.update (reinstate j0)).jumpers

/-- The graph of `rankTail`: the competition stays open, is closed, or (everybody being out) goes into a jump-off
    among the athletes called back, whose places `_rankj` assigns anew.  The hypothesis of `open_` is what is left of
    the two paths that fall through with everybody out — no ranked list, or a head bib that `rankLeader` does not
    find; under `WF` with an athlete registered neither happens (`Tail.decided` refutes it). -/
inductive Tail (c : Comp) : Comp → Prop
  | open_ (h : c.alive = [] → ∀ r ∈ c.ranked.head?, c.find r = none) : Tail c c
  | close {p : Phase} (h : Closes c p) : Tail c { c with phase := p }
  | jumpoff {js : List Jumper} (ha : c.alive = []) (h : Recalls c js) :
      Tail c (rankj { c with jumpers := js, phase := .jumpoff })

theorem map_if_none (l : List Jumper) (p : Jumper → Bool) (f : Jumper → Jumper) (h : ∀ j ∈ l, p j = false) :
    l.map (fun j => if p j then f j else j) = l := by
  rw [List.map_congr_left (g := id)]
  · simp
  · intro j hj; simp [h j hj]

theorem rankTail_cases (c : Comp) : Tail c (rankTail c) := by
  unfold rankTail
  split
  · next hr => exact .open_ (fun _ r hr' => by rw [hr] at hr'; cases hr')
  · next r0 rest hr =>
    split
    · next ha =>
      split
      · next h2 =>
        unfold rankTie
        simp only
        split
        · next hn =>
          obtain ⟨j, hj⟩ := List.exists_mem_of_length_pos hn
          exact .jumpoff ha (.tie hr h2 ⟨j, List.mem_filter.1 hj⟩)
        · next hn =>
          have hno : ∀ j ∈ c.jumpers, reinstated c j = false := by
            simpa using List.filter_eq_nil_iff.1 (List.eq_nil_of_length_eq_zero (Nat.eq_zero_of_not_pos hn))
          rw [map_if_none _ _ _ hno]
          exact .close (.drawn ha hr h2 hno)
      · next h2 =>
        have h2 : secondIsFirst c rest = false := by simpa using h2
        unfold rankLeader
        split
        · next j0 hf =>
          split
          · next hc =>
            simp only [Bool.and_eq_true, beq_iff_eq, Bool.not_eq_true'] at hc
            have e : c.update (reinstate j0) = { c with jumpers := (c.update (reinstate j0)).jumpers, phase := .jumpoff } := by
              rw [← hc.1]; rfl
            rw [e]
            exact .jumpoff ha (.leader hr h2 hf hc.1 hc.2)
          · next hc => exact .close (.leader ha hr h2 hf (by simpa using hc))
        · next hf => exact .open_ (fun _ r hr' => by rw [hr] at hr'; cases hr'; exact hf)
    · next w ha =>
      unfold rankOneLeft
      split
      · next hc =>
        simp only [Bool.and_eq_true, beq_iff_eq] at hc
        have := Closes.oneLeft w ha hc.1 hc.2
        simp only [Bool.or_eq_true, beq_iff_eq]
        exact .close this
      · exact .open_ (fun h => by cases h.symm.trans ha)
    · next h1 h2 =>
      refine .open_ (fun h => ?_)
      exact absurd h h1

theorem Recalls.length {c : Comp} {js : List Jumper} (h : Recalls c js) : js.length = c.jumpers.length := by
  cases h <;> simp

theorem Closes.phaseStep {c : Comp} {p : Phase} (h : Closes c p) : PhaseStep c.phase p := by
  cases h with
  | oneLeft w ha hl ho =>
    split
    · next h => exact Or.inr (Or.inr (Or.inr (Or.inr ⟨rfl, h⟩)))
    · exact Or.inr (Or.inr (Or.inr (Or.inl rfl)))
  | leader => exact Or.inr (Or.inr (Or.inr (Or.inl rfl)))
  | drawn => exact Or.inr (Or.inr (Or.inl rfl))

theorem Tail.frame {c c' : Comp} (h : Tail c c') : Frame c c' ∧ PhaseStep c.phase c'.phase := by
  cases h with
  | open_ => exact ⟨⟨rfl, rfl, rfl⟩, Or.inl rfl⟩
  | close h => exact ⟨⟨rfl, rfl, rfl⟩, h.phaseStep⟩
  | jumpoff _ h =>
    obtain ⟨h1, h2, h3, h4⟩ := rankj_frame { c with jumpers := _, phase := .jumpoff }
    exact ⟨⟨h1, h2, h4.trans h.length⟩, Or.inr (Or.inl h3)⟩

theorem Tail.drawn {cr c' : Comp} (ht : Tail cr c') (hne : cr.phase ≠ .drawn) (hd : c'.phase = .drawn) :
    ∀ j ∈ c'.jumpers, j.eliminated = true := by
  cases ht with
  | open_ => exact absurd hd hne
  | close hc =>
    cases hc with
    | oneLeft =>
      simp only at hd
      split at hd <;> cases hd
    | leader => cases hd
    | drawn ha => exact fun j hj => by simpa using List.filter_eq_nil_iff.1 ha j hj
  | jumpoff =>
    rw [(rankj_frame _).2.2.1] at hd
    cases hd

theorem rank_frame (c : Comp) : Frame c (rank c) ∧ PhaseStep c.phase (rank c).phase := by
  obtain ⟨h1, h2, h3, h4⟩ := rankj_frame c
  obtain ⟨⟨g1, g2, g3⟩, g4⟩ := (rankTail_cases (rankj c)).frame
  rw [h3] at g4
  exact ⟨⟨g1.trans h1, g2.trans h2, g3.trans h4⟩, g4⟩

theorem PhaseStep.ne_scheduled {p p' : Phase} (h : PhaseStep p p') (hp : p ≠ .scheduled) : p' ≠ .scheduled := by
  rcases h with h | h | h | h | ⟨h, _⟩
  · rw [h]; exact hp
  all_goals rw [h]; intro e; cases e

theorem act_eq_some {j j' : Jumper} {hc : Nat} {h : Int} {t : Trial} :
    j.act hc h t = some j' ↔
      (j.eliminated = false ∧ j.dismissed = false ∧ ((padCard j.card hc).getLast?.getD []).length < j.roundLim) ∧
      j' = j.actCore hc h t := by
  unfold Jumper.act
  cases j.eliminated <;> cases j.dismissed <;> simp [Nat.lt_succ_iff, eq_comm]

theorem act_some (j j' : Jumper) (hc : Nat) (h : Int) (t : Trial) (ha : j.act hc h t = some j') :
    j.eliminated = false ∧ j.dismissed = false ∧ ((padCard j.card hc).getLast?.getD []).length < j.roundLim :=
  (act_eq_some.1 ha).1

theorem act_core (j j' : Jumper) (hc : Nat) (h : Int) (t : Trial) (ha : j.act hc h t = some j') :
    j' = j.actCore hc h t :=
  (act_eq_some.1 ha).2

theorem actCore_bib (j : Jumper) (hc : Nat) (h : Int) (t : Trial) : (j.actCore hc h t).bib = j.bib := by
  cases t <;> simp only [Jumper.actCore] <;> (try split) <;> rfl

theorem actCore_roundLim (j : Jumper) (hc : Nat) (h : Int) (t : Trial) : (j.actCore hc h t).roundLim = j.roundLim := by
  cases t <;> simp only [Jumper.actCore] <;> (try split) <;> rfl

theorem actCore_card (j : Jumper) (hc : Nat) (h : Int) (t : Trial) :
    (j.actCore hc h t).card = appendLast (padCard j.card hc) t := by
  cases t <;> simp only [Jumper.actCore] <;> (try split) <;> rfl

/-! what a mark does to the counter and the two flags -/
theorem actCore_consec (j : Jumper) (hc : Nat) (h : Int) (t : Trial) :
    (j.actCore hc h t).consec = match t with | .o => 0 | .x => j.consec + 1 | _ => j.consec := by
  cases t <;> simp only [Jumper.actCore] <;> (try split) <;> rfl

/-- out: by retiring, or by the failure that reaches the limit -/
theorem actCore_eliminated (j : Jumper) (hc : Nat) (h : Int) (t : Trial) (he : j.eliminated = false) :
    (j.actCore hc h t).eliminated = (t == .r || (t == .x && decide (j.roundLim ≤ j.consec + 1))) := by
  cases t <;> simp only [Jumper.actCore] <;> (try split) <;> simp_all

/-- done at this height: unless it was a failure under the limit -/
theorem actCore_dismissed (j : Jumper) (hc : Nat) (h : Int) (t : Trial) :
    (j.actCore hc h t).dismissed = (t != .x || decide (j.roundLim ≤ j.consec + 1)) := by
  cases t <;> simp only [Jumper.actCore] <;> (try split) <;> simp_all

theorem actCore_best (j : Jumper) (hc : Nat) (h : Int) (t : Trial) (ht : t ≠ .o) :
    (j.actCore hc h t).best = j.best ∧ (j.actCore hc h t).bestIdx = j.bestIdx := by
  cases t with
  | o => exact absurd rfl ht
  | x => simp only [Jumper.actCore]; split <;> exact ⟨rfl, rfl⟩
  | p => exact ⟨rfl, rfl⟩
  | r => exact ⟨rfl, rfl⟩

theorem actCore_bestIdx_isSome (j : Jumper) (hc : Nat) (h : Int) (t : Trial) (hb : j.bestIdx.isSome = true) :
    (j.actCore hc h t).bestIdx.isSome = true := by
  cases t <;> simp only [Jumper.actCore] <;> (try split) <;> first | exact hb | rfl

def addResult (c : Comp) (b : Nat) : Comp :=
  { c with jumpers := c.jumpers ++ [{ bib := b, place := c.jumpers.length + 1 }], ranked := c.ranked ++ [b],
           log := c.log ++ [.add b] }

theorem step_add (c : Comp) (b : Nat) :
    step c (.add b) = if c.phase = .scheduled ∧ c.find b = none then (addResult c b, .ok) else (c, .rule) := by
  simp only [step, addResult]
  by_cases h1 : c.phase = .scheduled
  · cases h2 : c.find b <;> simp [h1]
  · simp [h1]

def barAllowed (c : Comp) (h : Int) : Prop :=
  (c.phase = .scheduled ∨ c.phase = .started ∨ c.phase = .jumpoff ∨ c.phase = .won) ∧
  (c.phase = .jumpoff ∨ c.heights.getLast?.getD 0 < h)

instance (c : Comp) (h : Int) : Decidable (barAllowed c h) := by unfold barAllowed; infer_instance

def barResult (c : Comp) (h : Int) : Comp :=
  { c with phase := if c.phase = .scheduled then .started else c.phase,
           jumpers := c.jumpers.map (fun (j : Jumper) => if !j.eliminated then { j with dismissed := false } else j),
           heights := c.heights ++ [h], log := c.log ++ [.bar h] }

theorem step_bar (c : Comp) (h : Int) :
    step c (.bar h) = if barAllowed c h then (barResult c h, .ok) else (c, .rule) := by
  obtain ⟨js, rk, hs, ph, lg⟩ := c
  simp only [step, barAllowed, barResult]
  cases ph <;> simp <;> (try split) <;> simp_all <;> omega

theorem barResult_phase (c : Comp) (x : Int) :
    (barResult c x).phase = if c.phase = .scheduled then .started else c.phase := rfl

theorem barResult_jumpers (c : Comp) (x : Int) :
    (barResult c x).jumpers = c.jumpers.map (fun k => { k with dismissed := k.eliminated && k.dismissed }) :=
  List.map_congr_left (fun k _ => by obtain ⟨_, _, _, _, e, _, _, _, _⟩ := k; cases e <;> rfl)

def logTrial (c : Comp) (b : Nat) (t : Trial) (j' : Jumper) : Comp :=
  { (c.update j') with log := c.log ++ [.trial b t] }

@[simp] theorem logTrial_log (c : Comp) (b : Nat) (t : Trial) (j' : Jumper) :
    (logTrial c b t j').log = c.log ++ [.trial b t] := rfl
@[simp] theorem logTrial_heights (c : Comp) (b : Nat) (t : Trial) (j' : Jumper) :
    (logTrial c b t j').heights = c.heights := rfl
@[simp] theorem logTrial_phase (c : Comp) (b : Nat) (t : Trial) (j' : Jumper) :
    (logTrial c b t j').phase = c.phase := rfl
@[simp] theorem logTrial_ranked (c : Comp) (b : Nat) (t : Trial) (j' : Jumper) :
    (logTrial c b t j').ranked = c.ranked := rfl
@[simp] theorem logTrial_jumpers (c : Comp) (b : Nat) (t : Trial) (j' : Jumper) :
    (logTrial c b t j').jumpers = (c.update j').jumpers := rfl

def trialResult (c : Comp) (b : Nat) (t : Trial) (j' : Jumper) : Comp := rank (logTrial c b t j')

theorem trialResult_heights (c : Comp) (b : Nat) (t : Trial) (j' : Jumper) : (trialResult c b t j').heights = c.heights :=
  (rank_frame _).1.2.1

theorem trialAllowed_iff (c : Comp) (j : Jumper) :
    trialAllowed c j = true ↔
      c.phase = .started ∨ c.phase = .jumpoff ∨ ((c.phase = .won ∨ c.phase = .drawn) ∧ j.place = 1) := by
  unfold trialAllowed
  cases c.phase <;> simp

theorem trialAllowed_phase {c : Comp} {j : Jumper} (h : trialAllowed c j = true) :
    c.phase = .started ∨ c.phase = .jumpoff ∨ c.phase = .won ∨ c.phase = .drawn := by
  rcases (trialAllowed_iff c j).1 h with e | e | ⟨e | e, _⟩
  · exact Or.inl e
  · exact Or.inr (Or.inl e)
  · exact Or.inr (Or.inr (Or.inl e))
  · exact Or.inr (Or.inr (Or.inr e))

theorem trialAllowed_underway {c : Comp} (j : Jumper) (h : c.phase = .started ∨ c.phase = .jumpoff) :
    trialAllowed c j = true :=
  (trialAllowed_iff c j).2 (h.elim Or.inl (fun e => Or.inr (Or.inl e)))

theorem trialResult_ne_scheduled {c : Comp} {j : Jumper} (b : Nat) (t : Trial) (j' : Jumper)
    (hta : trialAllowed c j = true) : (trialResult c b t j').phase ≠ .scheduled := by
  refine (rank_frame _).2.ne_scheduled ?_
  rw [logTrial_phase]
  rcases trialAllowed_phase hta with e | e | e | e
  all_goals rw [e]; intro e'; cases e'

theorem step_trial (c : Comp) (b : Nat) (t : Trial) :
    (∃ j j', c.find b = some j ∧ trialAllowed c j = true ∧ c.heights ≠ [] ∧
        j.act c.heights.length (c.heights.getLast?.getD 0) t = some j' ∧
        step c (.trial b t) = (trialResult c b t j', .ok)) ∨
    ((step c (.trial b t)).1 = c ∧ (step c (.trial b t)).2 ≠ .ok ∧
      ((step c (.trial b t)).2 = .key ↔ c.find b = none) ∧
      ((step c (.trial b t)).2 = .assert → c.heights = [])) := by
  simp only [step, trialResult, logTrial]
  cases hf : c.find b with
  | none => right; simp
  | some j =>
    simp only
    by_cases ha : trialAllowed c j = true
    · simp only [ha, Bool.not_true, Bool.false_eq_true, if_false]
      by_cases hh : c.heights.length = 0
      · right; simp [List.eq_nil_of_length_eq_zero hh]
      · simp only [beq_iff_eq, hh, if_false]
        cases hact : j.act c.heights.length (c.heights.getLast?.getD 0) t with
        | none => right; simp
        | some j' =>
          left
          refine ⟨j, j', rfl, ha, ?_, hact, rfl⟩
          intro h0; simp [h0] at hh
    · right; simp [ha]

/-- The accepted calls and what they yield.  Every invariant of the state machine is shown call by call on this;
    a refused call changes nothing (`step_cases`). -/
inductive Accepts (c : Comp) : Op → Comp → Prop
  | add (b : Nat) (hp : c.phase = .scheduled) (hf : c.find b = none) : Accepts c (.add b) (addResult c b)
  | bar (h : Int) (hb : barAllowed c h) : Accepts c (.bar h) (barResult c h)
  | trial (b : Nat) (t : Trial) (j : Jumper) (hf : c.find b = some j) (ha : trialAllowed c j = true)
      (hh : c.heights ≠ []) (he : j.eliminated = false) (hd : j.dismissed = false)
      (hl : ((padCard j.card c.heights.length).getLast?.getD []).length < j.roundLim) :
      Accepts c (.trial b t) (trialResult c b t (j.actCore c.heights.length (c.heights.getLast?.getD 0) t))

theorem step_cases (c : Comp) (op : Op) :
    (∃ c', Accepts c op c' ∧ step c op = (c', .ok)) ∨ ((step c op).1 = c ∧ (step c op).2 ≠ .ok) := by
  cases op with
  | add b =>
    rw [step_add]
    split
    · next h => exact Or.inl ⟨_, .add b h.1 h.2, rfl⟩
    · exact Or.inr ⟨rfl, by simp⟩
  | bar x =>
    rw [step_bar]
    split
    · next h => exact Or.inl ⟨_, .bar x h, rfl⟩
    · exact Or.inr ⟨rfl, by simp⟩
  | trial b t =>
    rcases step_trial c b t with ⟨j, j', hf, ha, hh, hact, hs⟩ | ⟨h1, h2, _⟩
    · obtain ⟨⟨he, hd, hl⟩, rfl⟩ := act_eq_some.1 hact
      exact Or.inl ⟨_, .trial b t j hf ha hh he hd hl, hs⟩
    · exact Or.inr ⟨h1, h2⟩

theorem step_refused (c : Comp) (op : Op) (h : (step c op).2 ≠ .ok) : (step c op).1 = c := by
  rcases step_cases c op with ⟨c', _, e⟩ | ⟨e, _⟩
  · rw [e] at h
    exact absurd rfl h
  · exact e

theorem Accepts.log {c c' : Comp} {op : Op} (h : Accepts c op c') : c'.log = c.log ++ [op] := by
  cases h with
  | add => rfl
  | bar => rfl
  | trial => exact (rank_frame _).1.1

theorem accepted_trial (c : Comp) (b : Nat) (t : Trial) (h : (step c (.trial b t)).2 = .ok) :
    ∃ j j', c.find b = some j ∧ trialAllowed c j = true ∧ c.heights ≠ [] ∧
      j.act c.heights.length (c.heights.getLast?.getD 0) t = some j' ∧
      step c (.trial b t) = (rank (logTrial c b t j'), .ok) := by
  rcases step_trial c b t with ⟨j, j', h1, h2, h3, h4, h5⟩ | ⟨_, hne, _⟩
  · exact ⟨j, j', h1, h2, h3, h4, h5⟩
  · exact absurd h hne

theorem trial_accepts (c : Comp) (b : Nat) (t : Trial) (j j' : Jumper) (hf : c.find b = some j)
    (ha : trialAllowed c j = true) (hh : c.heights ≠ [])
    (hact : j.act c.heights.length (c.heights.getLast?.getD 0) t = some j') :
    step c (.trial b t) = (rank (logTrial c b t j'), .ok) := by
  have hl : ¬ c.heights.length = 0 := fun e => hh (List.eq_nil_of_length_eq_zero e)
  simp only [step, hf, ha, hact, logTrial]
  simp [hl]

theorem trial_ok_iff (c : Comp) (b : Nat) (t : Trial) (j : Jumper) (hj : c.find b = some j) :
    (step c (.trial b t)).2 = .ok ↔
      (trialAllowed c j = true ∧ c.heights ≠ [] ∧ j.eliminated = false ∧ j.dismissed = false ∧
        ((padCard j.card c.heights.length).getLast?.getD []).length < j.roundLim) := by
  constructor
  · intro h
    obtain ⟨j', _, hj', ha, hh, hact, _⟩ := accepted_trial c b t h
    obtain rfl := Option.some.inj (hj.symm.trans hj')
    exact ⟨ha, hh, (act_eq_some.1 hact).1⟩
  · rintro ⟨ha, hh, he, hd, hl⟩
    rw [trial_accepts c b t j _ hj ha hh (act_eq_some.2 ⟨⟨he, hd, hl⟩, rfl⟩)]

theorem step_preserves {P : Comp → Prop} {c : Comp} (op : Op) (h : P c) (hs : ∀ c', Accepts c op c' → P c') :
    P (step c op).1 := by
  rcases step_cases c op with ⟨c', ha, e⟩ | ⟨e, _⟩
  · rw [e]; exact hs c' ha
  · rw [e]; exact h

end AthlibVerif.HJ
