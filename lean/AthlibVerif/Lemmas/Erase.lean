import AthlibVerif.Lemmas.PassMark
/-!
# Dropping the passes from a history

The card import never replays a pass (`bib_trial(bib, '-')` does nothing), and it does not have to: if a call
sequence is accepted in full, so is the sequence with its passes left out, and both end showing the same, pass marks
aside (`erase_run`, Lemmas/EraseStep).  The proof is a simulation; this file holds its record level.  `JSim j j'`:
`j'` is the record of the athlete in the competition without the passes — the same except that the card carries no
`-` (`noP`), may be shorter by cells that held only passes (`CardSim`), and the athlete may be "not yet done" at a
height where the original has passed.  Such records have the same key (`JSim.key`), and a trial other than a pass
accepted on the left is accepted on the right and keeps them related (`act_sim`).
-/
namespace AthlibVerif.HJ
open AthlibVerif.Ranking

def noP (cell : List Trial) : List Trial := cell.filter (· != .p)

theorem countX_noP (cell : List Trial) : countX (noP cell) = countX cell :=
  List.count_filter (by decide)

theorem noP_clean (cell : List Trial) (h : Trial.p ∉ cell) : noP cell = cell := by
  unfold noP
  apply List.filter_eq_self.2
  intro t ht
  cases t <;> first | rfl | exact absurd ht h

theorem noP_of_allX (cell : List Trial) (h : allX cell = true) : noP cell = cell :=
  noP_clean cell (fun hp => by simpa using List.all_eq_true.1 h _ hp)

structure CardSim (a a' : List (List Trial)) : Prop where
  len : a'.length ≤ a.length
  clean : ∀ cell ∈ a', Trial.p ∉ cell
  cells : ∀ i, a'.getD i [] = noP (a.getD i [])

theorem CardSim.of_cells {a a' : List (List Trial)} (len : a'.length ≤ a.length)
    (cells : ∀ i, a'.getD i [] = noP (a.getD i [])) : CardSim a a' := by
  refine ⟨len, fun cell hc hp => ?_, cells⟩
  obtain ⟨i, hi, rfl⟩ := List.getElem_of_mem hc
  have := cells i
  rw [List.getD_eq_getElem?_getD, List.getElem?_eq_getElem hi, Option.getD_some] at this
  rw [this] at hp
  simp [noP] at hp

structure JSim (j j' : Jumper) : Prop where
  bib : j'.bib = j.bib
  best : j'.best = j.best
  bestIdx : j'.bestIdx = j.bestIdx
  elim : j'.eliminated = j.eliminated
  lim : j'.roundLim = j.roundLim
  consec : j'.consec = j.consec
  dis : j'.dismissed = true → j.dismissed = true
  card : CardSim j.card j'.card

theorem JSim.key {j j' : Jumper} (h : JSim j j') : j'.key = j.key :=
  key_congr h.bestIdx h.elim h.best (fun m => by rw [h.card.cells m, countX_noP])

theorem noP_snoc (cell : List Trial) (t : Trial) (ht : t ≠ .p) : noP (cell ++ [t]) = noP cell ++ [t] := by
  unfold noP
  rw [List.filter_append]
  cases t <;> simp_all

theorem cardSim_act (a a' : List (List Trial)) (n : Nat) (t : Trial) (ht : t ≠ .p) (h : CardSim a a') (hlen : a.length ≤ n)
    (hn : 0 < n) : CardSim (appendLast (padCard a n) t) (appendLast (padCard a' n) t) := by
  obtain ⟨hl1, hg1⟩ := marked_card a n t hlen hn
  obtain ⟨hl2, hg2⟩ := marked_card a' n t (Nat.le_trans h.len hlen) hn
  refine CardSim.of_cells (by rw [hl1, hl2]; exact Nat.le_refl _) (fun i => ?_)
  rw [hg1 i, hg2 i]
  split
  · rw [noP_snoc _ t ht, h.cells i]
  · exact h.cells i

theorem act_sim (n : Nat) (hgt : Int) (j j' k : Jumper) (t : Trial) (ht : t ≠ .p) (hs : JSim j j') (hlen : j.card.length ≤ n)
    (hn : 0 < n) (hopen : allX ((padCard j.card n).getLast?.getD []) = true) (hact : j.act n hgt t = some k) :
    ∃ k', j'.act n hgt t = some k' ∧ JSim k k' := by
  obtain ⟨⟨he, hd, hlt⟩, rfl⟩ := act_eq_some.1 hact
  have hlen' : j'.card.length ≤ n := Nat.le_trans hs.card.len hlen
  -- the current cell on the left is open, failures only (`hopen`), so it is its own `noP`
  have hcell : (padCard j'.card n).getLast?.getD [] = (padCard j.card n).getLast?.getD [] := by
    rw [padCard_last_getD _ n hlen', padCard_last_getD _ n hlen, hs.card.cells]
    rw [padCard_last_getD _ n hlen] at hopen
    exact noP_of_allX _ hopen
  have hd' : j'.dismissed = false := by
    cases hdd : j'.dismissed with
    | false => rfl
    | true => have := hs.dis hdd; rw [hd] at this; cases this
  refine ⟨_, act_eq_some.2 ⟨⟨hs.elim.trans he, hd', by rw [hcell, hs.lim]; exact hlt⟩, rfl⟩, ?_⟩
  have hcs := cardSim_act j.card j'.card n t ht hs.card hlen hn
  have hl1 := (marked_card j.card n t hlen hn).1
  have hl2 := (marked_card j'.card n t hlen' hn).1
  cases t with
  | p => exact absurd rfl ht
  | o =>
    simp only [Jumper.actCore, hs.bestIdx, hs.best]
    split
    · exact ⟨hs.bib, rfl, by simp only [hl1, hl2], hs.elim, hs.lim, rfl, fun _ => rfl, hcs⟩
    · exact ⟨hs.bib, rfl, rfl, hs.elim, hs.lim, rfl, fun _ => rfl, hcs⟩
  | x =>
    simp only [Jumper.actCore, hs.consec, hs.lim]
    split
    · exact ⟨hs.bib, hs.best, hs.bestIdx, rfl, rfl, rfl, fun _ => rfl, hcs⟩
    · exact ⟨hs.bib, hs.best, hs.bestIdx, hs.elim, rfl, rfl, fun h => h, hcs⟩
  | r =>
    simp only [Jumper.actCore]
    exact ⟨hs.bib, hs.best, hs.bestIdx, rfl, hs.lim, hs.consec, fun _ => rfl, hcs⟩

end AthlibVerif.HJ
