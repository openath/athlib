import AthlibVerif.Lemmas.Consec
/-!
# Attempts per height: three, one in a jump-off

`Jumper.roundLim` is the number the acceptance test of a trial compares the open cell with
(`_set_jump_array`: `len(atts[-1]) > round_lim - 1`).  The invariant `LimInv` says what that number is in every
reachable state: three for everybody while the competition is scheduled, started or won; one for everybody who
is still in while a jump-off runs; never anything but one or three.  Whoever was out before a call and is in
after it has limit one (`step_back`: a record comes back only by `Reranked.back`) and is in a jump-off
(`step_back_phase`: the other endings of `_rank` leave the in / out flags alone).
-/
namespace AthlibVerif.HJ

structure LimInv (c : Comp) : Prop where
  jumpoff : c.phase = .jumpoff → ∀ j ∈ c.jumpers, j.eliminated = false → j.roundLim = 1
  regular : (c.phase = .scheduled ∨ c.phase = .started ∨ c.phase = .won) → ∀ j ∈ c.jumpers, j.roundLim = 3
  either : ∀ j ∈ c.jumpers, j.roundLim = 1 ∨ j.roundLim = 3

theorem LimInv_init : LimInv {} := ⟨fun h => (by cases h), fun _ j hj => (by cases hj), fun j hj => (by cases hj)⟩

theorem LimInv.of_map {c c' : Comp} {f : Jumper → Jumper} (h : LimInv c) (hj : c'.jumpers = c.jumpers.map f)
    (hl : ∀ k, (f k).roundLim = k.roundLim) (he : ∀ k ∈ c.jumpers, (f k).eliminated = false → k.eliminated = false)
    (hpj : c'.phase = .jumpoff → c.phase = .jumpoff)
    (hpr : (c'.phase = .scheduled ∨ c'.phase = .started ∨ c'.phase = .won) →
      (c.phase = .scheduled ∨ c.phase = .started ∨ c.phase = .won)) : LimInv c' := by
  have hmem : ∀ k' ∈ c'.jumpers, ∃ k ∈ c.jumpers, k' = f k := fun k' hk' => by
    rw [hj] at hk'
    obtain ⟨k, hk, e⟩ := List.mem_map.1 hk'
    exact ⟨k, hk, e.symm⟩
  refine ⟨fun hq k' hk' hke => ?_, fun hq k' hk' => ?_, fun k' hk' => ?_⟩
  · obtain ⟨k, hk, rfl⟩ := hmem k' hk'
    rw [hl]
    exact h.jumpoff (hpj hq) k hk (he k hk hke)
  · obtain ⟨k, hk, rfl⟩ := hmem k' hk'
    rw [hl]
    exact h.regular (hpr hq) k hk
  · obtain ⟨k, hk, rfl⟩ := hmem k' hk'
    rw [hl]
    exact h.either k hk

theorem rankj_LimInv (c : Comp) (hw : WF c) (h : LimInv c) : LimInv (rankj c) :=
  h.of_map (rankj_jumpers c hw) (fun _ => rfl) (fun _ _ => id) (by rw [(rankj_frame c).2.2.1]; exact id)
    (by rw [(rankj_frame c).2.2.1]; exact id)

theorem Tail.limInv {c c' : Comp} (hw : WF c) (h : LimInv c) (ht : Tail c c') : LimInv c' := by
  cases ht with
  | open_ => exact h
  | close hc =>
    refine ⟨fun hq => ?_, fun hq => h.regular ?_, h.either⟩
    · cases hc with
      | oneLeft w =>
        simp only at hq
        split at hq <;> cases hq
      | leader => cases hq
      | drawn => cases hq
    · cases hc with
      | oneLeft w =>
        simp only at hq
        split at hq
        · next hp => exact Or.inr hp
        · rcases hq with e | e | e <;> cases e
      | leader => rcases hq with e | e | e <;> cases e
      | drawn => rcases hq with e | e | e <;> cases e
  | jumpoff ha hr =>
    -- everybody is out (`ha`), and those called back come with a single attempt
    obtain ⟨S, rfl⟩ := hr.records hw.1
    refine rankj_LimInv _ (WF_of_map c _ _ rfl (fun k => by split <;> rfl) (List.Perm.refl _) hw) ?_
    have hall : ∀ k ∈ c.jumpers, k.eliminated = true := fun k hk => by
      simpa using List.filter_eq_nil_iff.1 ha k hk
    refine ⟨fun _ k' hk' hke => ?_, fun hq => (by rcases hq with e | e | e <;> cases e), fun k' hk' => ?_⟩
    · obtain ⟨k, hk, rfl⟩ := List.mem_map.1 hk'
      split
      · rfl
      · next hn =>
        rw [if_neg hn, hall k hk] at hke
        cases hke
    · obtain ⟨k, hk, rfl⟩ := List.mem_map.1 hk'
      split
      · exact Or.inl rfl
      · exact h.either k hk

theorem LimInv.accepts {c c' : Comp} {op : Op} (hw : WF c) (h : LimInv c) (ha : Accepts c op c') : LimInv c' := by
  cases ha with
  | add b hp hf =>
    have hs : (addResult c b).phase = .scheduled := hp
    refine ⟨fun hq => (by rw [hs] at hq; cases hq), fun _ k hk => ?_, fun k hk => ?_⟩
    · rcases List.mem_append.1 hk with e | e
      · exact h.regular (Or.inl hp) k e
      · rw [List.mem_singleton.1 e]
    · rcases List.mem_append.1 hk with e | e
      · exact h.either k e
      · rw [List.mem_singleton.1 e]
        exact Or.inr rfl
  | bar x hb =>
    refine h.of_map (barResult_jumpers c x) (fun _ => rfl) (fun _ _ => id) ?_ ?_
    · rw [barResult_phase]
      split
      · intro e; cases e
      · exact id
    · rw [barResult_phase]
      split
      · next hs => exact fun _ => Or.inl hs
      · exact id
  | trial b t j hf _ _ he =>
    obtain ⟨hu, hwL⟩ := logTrial_records c hw b t j hf _ (fun k => actCore_bib k _ _ t)
    have hL : LimInv (logTrial c b t (j.actCore c.heights.length (c.heights.getLast?.getD 0) t)) := by
      refine h.of_map hu (fun k => by split <;> simp [actCore_roundLim]) (fun k hk hke => ?_) id id
      split at hke
      · next e =>
        rw [eq_of_find c hw.1 hf hk e]
        exact he
      · exact hke
    exact (rankTail_cases _).limInv (rankj_WF _ hwL) (rankj_LimInv _ hwL hL)

theorem step_back (c : Comp) (op : Op) (hw : WF c) (j j' : Jumper) (hj : j ∈ c.jumpers)
    (hj' : j' ∈ (step c op).1.jumpers) (hb : j'.bib = j.bib) (he : j.eliminated = true) (he' : j'.eliminated = false) :
    j'.roundLim = 1 := by
  have hold : ∀ k ∈ c.jumpers, k.bib = j.bib → k.eliminated = false → k.roundLim = 1 := fun k hk e hke => by
    rw [bib_inj c.jumpers hw.1 k j hk hj e, he] at hke; cases hke
  refine step_preserves (P := fun c' => ∀ k ∈ c'.jumpers, k.bib = j.bib → k.eliminated = false → k.roundLim = 1) op hold
    (fun c' ha => ?_) j' hj' hb he'
  refine ha.forall_records (P := fun _ k => k.bib = j.bib → k.eliminated = false → k.roundLim = 1) hw
    (new := fun b p hf e => absurd (List.mem_map.2 ⟨j, hj, e.symm⟩) (find_none_not_mem c b hf))
    (bar := fun x k hk hP => hP) (act := fun t k hk _ hke _ _ _ e => ?_) (rerank := fun k k' hr hP e hke => ?_) hold
  -- act: whoever jumped was in, hence is not `j`
  · rw [actCore_bib] at e
    rw [bib_inj c.jumpers hw.1 k j hk hj e, he] at hke; cases hke
  · cases hr with
    | place => exact hP e hke
    | back => rfl

/-- what `step_back_phase` reads off `Tail`: only the jump-off ending changes anybody's in / out flag -/
def TailKeeps (cr c' : Comp) : Prop :=
  c'.phase = .jumpoff ∨ ∀ k' ∈ c'.jumpers, ∃ k ∈ cr.jumpers, k'.bib = k.bib ∧ k'.eliminated = k.eliminated

theorem Tail.keeps {c c' : Comp} (h : Tail c c') : TailKeeps c c' := by
  cases h with
  | open_ => exact Or.inr (fun k' hk' => ⟨k', hk', rfl, rfl⟩)
  | close => exact Or.inr (fun k' hk' => ⟨k', hk', rfl, rfl⟩)
  | jumpoff => exact Or.inl (rankj_frame _).2.2.1

theorem rankTail_keeps (cr : Comp) : TailKeeps cr (rankTail cr) := (rankTail_cases cr).keeps

theorem step_back_phase (c : Comp) (op : Op) (hw : WF c) (j j' : Jumper) (hj : j ∈ c.jumpers)
    (hj' : j' ∈ (step c op).1.jumpers) (hb : j'.bib = j.bib) (he : j.eliminated = true) (he' : j'.eliminated = false) :
    (step c op).1.phase = .jumpoff := by
  have hold : ∀ k ∈ c.jumpers, k.bib = j.bib → k.eliminated = true := fun k hk e => by
    rw [bib_inj c.jumpers hw.1 k j hk hj e]; exact he
  refine step_preserves (P := fun c' => ∀ k ∈ c'.jumpers, k.bib = j.bib → k.eliminated = false → c'.phase = .jumpoff) op
    (fun k hk e hke => by rw [hold k hk e] at hke; cases hke) (fun c' ha => ?_) j' hj' hb he'
  clear hj' hb he' j'
  intro j' hj' hb he'
  cases ha with
  | add b hp hf =>
    rcases List.mem_append.1 hj' with h | h
    · rw [hold j' h hb] at he'; cases he'
    · rw [List.mem_singleton.1 h] at hb
      exact absurd (List.mem_map.2 ⟨j, hj, hb.symm⟩) (find_none_not_mem c b hf)
  | bar x =>
    rw [barResult_jumpers] at hj'
    obtain ⟨k, hk, rfl⟩ := List.mem_map.1 hj'
    rw [show _ = k.eliminated from rfl, hold k hk hb] at he'; cases he'
  | trial b t ja hf _ _ hea =>
    -- in the ranked state the record of `j` is still out: whoever jumped was in, hence is not `j`
    obtain ⟨hu, hwL⟩ := logTrial_records c hw b t ja hf _ (fun k => actCore_bib k _ _ t)
    rcases rankTail_keeps (rankj (logTrial c b t (ja.actCore c.heights.length (c.heights.getLast?.getD 0) t))) with h | h
    · exact h
    · obtain ⟨k2, hk2, hb2, he2⟩ := h j' hj'
      rw [rankj_jumpers _ hwL, hu, List.map_map] at hk2
      obtain ⟨k, hk, rfl⟩ := List.mem_map.1 hk2
      have hb2 : j.bib = (if k.bib == b then k.actCore c.heights.length (c.heights.getLast?.getD 0) t else k).bib :=
        hb.symm.trans hb2
      have he2 : (if k.bib == b then k.actCore c.heights.length (c.heights.getLast?.getD 0) t else k).eliminated = false :=
        he2.symm.trans he'
      by_cases e : (k.bib == b) = true
      · rw [if_pos e, actCore_bib] at hb2
        rw [← eq_of_find c hw.1 hf hk e, hold k hk hb2.symm] at hea; cases hea
      · rw [if_neg e] at hb2 he2
        rw [hold k hk hb2.symm] at he2; cases he2

end AthlibVerif.HJ
