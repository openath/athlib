import AthlibVerif.Lemmas.MatchTie
import AthlibVerif.Checks.Codes
/-!
# What a captured group of the transcription can contain

String-level consequences of `GRE.span_sound` for `Model/Codes.lean`: the text of group `id` after
`PAT.match(s)` is in the language of the body of a group numbered `id` of the pattern; a text in the
language `\d+` (any script) is accepted by `int()`.  The lemmas `matches_*` take `Matches r t` (`RE.lang r (symsOf t)`)
apart along `r` without leaving strings.
-/
namespace AthlibVerif
namespace Codes
open RE GRE

/-- The text of group `id` is a word of a body of a group numbered `id`.  No condition on `$`: it stands for the empty word
    (`ms_to_lang`). -/
theorem group_body {name : String} {s : Str} {caps : Caps} (h : pyMatch name s = some caps)
    {id : Nat} {t : Str} (hg : group s caps id = some t) :
    ∃ body ∈ grpBodies id (pat name), Matches (toRE [] body) t := by
  obtain ⟨r, hm, rfl⟩ := Option.map_eq_some_iff.1 h
  obtain ⟨se, hs, rfl⟩ := Option.map_eq_some_iff.1 hg
  obtain ⟨-, -, -, body, hb, hms⟩ := span_sound (pat name) (symsOf s) r hm id se.1 se.2 hs
  obtain ⟨w, hd, hl, hw⟩ := ms_to_lang hms
  refine ⟨body, hb, ?_⟩
  rwa [Matches, sub, symsOf, List.map_take, List.map_drop, ← symsOf, hd, ← hl, Nat.add_sub_cancel_left, List.take_left]

theorem group_lang (name : String) (s : Str) (caps : Caps) (h : pyMatch name s = some caps)
    (id : Nat) (t : Str) (hg : group s caps id = some t)
    (hne : (grpBodies id (pat name)).all noEol = true) :
    ∃ body ∈ grpBodies id (pat name), RE.lang (toRE [] body) (symsOf t) :=
  group_body h hg

theorem matches_eps (t : Str) : Matches .eps t ↔ t = [] := by
  simp [Matches, RE.lang, symsOf]

theorem matches_cat (a b : RE) (t : Str) :
    Matches (.cat a b) t ↔ ∃ t1 t2, t = t1 ++ t2 ∧ Matches a t1 ∧ Matches b t2 := by
  simp only [Matches, RE.lang]
  constructor
  · rintro ⟨u, v, huv, hu, hv⟩
    obtain ⟨t1, t2, rfl, rfl, rfl⟩ := List.map_eq_append_iff.1 huv
    exact ⟨t1, t2, rfl, hu, hv⟩
  · rintro ⟨t1, t2, rfl, hu, hv⟩
    exact ⟨symsOf t1, symsOf t2, List.map_append, hu, hv⟩

theorem matches_cls (m : Nat) (t : Str) : Matches (.cls m) t ↔ ∃ a, t = [a] ∧ m.testBit (symOf a) = true := by
  simp only [Matches, RE.lang]
  constructor
  · rintro ⟨x, hx, hb⟩
    obtain ⟨a, t', rfl, rfl, ht'⟩ := List.map_eq_cons_iff.1 hx
    exact ⟨a, by rw [List.map_eq_nil_iff.1 ht'], hb⟩
  · rintro ⟨a, rfl, hb⟩; exact ⟨_, rfl, hb⟩

theorem matches_cls_cat (m : Nat) (r : RE) (t : Str) :
    Matches (.cat (.cls m) r) t ↔ ∃ a t', t = a :: t' ∧ m.testBit (symOf a) = true ∧ Matches r t' := by
  rw [matches_cat]
  constructor
  · rintro ⟨_, t', rfl, h1, h2⟩
    obtain ⟨a, rfl, hb⟩ := (matches_cls m _).1 h1
    exact ⟨a, t', rfl, hb, h2⟩
  · rintro ⟨a, t', rfl, hb, h2⟩
    exact ⟨[a], t', rfl, (matches_cls m _).2 ⟨a, rfl, hb⟩, h2⟩

theorem starL_cls_iff (m : Nat) (w : List Nat) : StarL (RE.lang (.cls m)) w ↔ ∀ x ∈ w, m.testBit x = true := by
  constructor
  · intro h
    induction h with
    | nil => intro x hx; cases hx
    | cons u v _ hu _ ih =>
      obtain ⟨y, rfl, hy⟩ := hu
      intro x hx
      rcases List.mem_cons.1 hx with rfl | hx
      · exact hy
      · exact ih x hx
  · intro h
    induction w with
    | nil => exact .nil
    | cons x xs ih =>
      exact .cons [x] xs (by simp) ⟨x, rfl, h x List.mem_cons_self⟩ (ih fun y hy => h y (List.mem_cons_of_mem _ hy))

theorem matches_star_cls (m : Nat) (t : Str) : Matches (.star (.cls m)) t ↔ ∀ c ∈ t, m.testBit (symOf c) = true :=
  (starL_cls_iff m _).trans List.forall_mem_map

theorem matches_plusCls (m : Nat) (t : Str) : Matches (plusCls m) t ↔ t ≠ [] ∧ ∀ c ∈ t, m.testBit (symOf c) = true := by
  rw [plusCls, matches_cls_cat]
  constructor
  · rintro ⟨a, t', rfl, ha, ht⟩
    exact ⟨by simp, List.forall_mem_cons.2 ⟨ha, (matches_star_cls m t').1 ht⟩⟩
  · rintro ⟨hne, h⟩
    cases t with
    | nil => exact (hne rfl).elim
    | cons a t' =>
      exact ⟨a, t', rfl, h a List.mem_cons_self, (matches_star_cls m t').2 fun c hc => h c (List.mem_cons_of_mem _ hc)⟩

theorem digitVal_isSome (hT : digitTableOK = true) (c : Char) (h : isDigitU c = true) : (digitVal c).isSome = true := by
  simp only [digitTableOK, Bool.and_eq_true, Bool.not_eq_true', List.all_eq_true, Bool.or_eq_true] at hT
  obtain ⟨e, hmem, h1, h2, he⟩ := symOf_spec c
  unfold isDigitU at h
  rw [he] at h
  rcases hT.2 e hmem with h' | h'
  · rw [h] at h'; cases h'
  · obtain ⟨b, hb, hbb⟩ := List.any_eq_true.1 h'
    simp only [Bool.and_eq_true, decide_eq_true_eq] at hbb
    unfold digitVal
    rw [Option.isSome_map, List.find?_isSome]
    exact ⟨b, hb, by simp only [Bool.and_eq_true, decide_eq_true_eq]; omega⟩

theorem foldl_digits (s : Str) (h : ∀ c ∈ s, (digitVal c).isSome = true) (k : Nat) :
    ∃ n, s.foldl pyIntStep (some k) = some n := by
  induction s generalizing k with
  | nil => exact ⟨k, rfl⟩
  | cons c cs ih =>
    have hc := h c List.mem_cons_self
    obtain ⟨d, hd⟩ := Option.isSome_iff_exists.1 hc
    simp only [List.foldl_cons, pyIntStep, hd]
    exact ih (fun c' hc' => h c' (List.mem_cons_of_mem _ hc')) _

theorem pyInt_of_digits (hT : digitTableOK = true) (t : Str) (hne : t ≠ []) (h : ∀ c ∈ t, isDigitU c = true) :
    ∃ n, pyInt t = .ok n := by
  have hne' : t.isEmpty = false := by cases t <;> simp_all
  obtain ⟨n, hn⟩ := foldl_digits t (fun c hc => digitVal_isSome hT c (h c hc)) 0
  exact ⟨n, by unfold pyInt; simp only [hne', Bool.false_eq_true, if_false, hn]⟩

/-- the inclusions are hypotheses, so that either checker (`isEmptyLang`, `emptyK`) can supply them -/
theorem group_matches_of (name : String) (id : Nat) (shape : RE)
    (hG : ∀ b ∈ grpBodies id (pat name), ∀ u, Matches (toRE [] b) u → Matches shape u)
    {s : Str} {caps : Caps} (h : pyMatch name s = some caps) {t : Str} (hg : group s caps id = some t) :
    Matches shape t := by
  obtain ⟨body, hb, hl⟩ := group_body h hg
  exact hG body hb t hl

theorem group_matches {fuel : Nat} (name : String) (id : Nat) (shape : RE)
    (hG : (grpBodies id (pat name)).all (fun b => noEol b &&
      RE.isEmptyLang Gen.nsym fuel (RE.and (toRE [] b) (RE.not shape))) = true)
    {s : Str} {caps : Caps} (h : pyMatch name s = some caps) {t : Str} (hg : group s caps id = some t) :
    Matches shape t := by
  simp only [List.all_eq_true, Bool.and_eq_true] at hG
  exact group_matches_of name id shape (fun b hb _ => Matches.subset (hG b hb).2) h hg

theorem group_int (hT : digitTableOK = true) (name : String) (id : Nat) (hG : groupDigits (pat name) id = true)
    (s : Str) (caps : Caps) (h : pyMatch name s = some caps) (t : Str) (hg : group s caps id = some t) :
    ∃ n, pyInt t = .ok n :=
  let ⟨hne, hd⟩ := (matches_plusCls Gen.digitMask t).1 (group_matches name id (plusCls Gen.digitMask) hG h hg)
  pyInt_of_digits hT t hne hd

theorem group_mandatory (name : String) (ids : List Nat) (hm : mandatory ids (pat name) = true) (s : Str)
    (caps : Caps) (h : pyMatch name s = some caps) : ∃ id ∈ ids, ∃ t, group s caps id = some t := by
  obtain ⟨r, hmf, rfl⟩ := Option.map_eq_some_iff.1 h
  obtain ⟨id, hid, hs⟩ := span_mandatory (pat name) ids hm (symsOf s) r hmf
  obtain ⟨se, hse⟩ := Option.isSome_iff_exists.1 hs
  exact ⟨id, hid, sub s se.1 se.2, by unfold group; rw [hse]; rfl⟩

theorem group_mandatory_one (name : String) (id : Nat) (hm : mandatory [id] (pat name) = true) (s : Str)
    (caps : Caps) (h : pyMatch name s = some caps) : ∃ t, group s caps id = some t := by
  obtain ⟨id', hid, t, ht⟩ := group_mandatory name [id] hm s caps h
  rw [List.mem_singleton.1 hid] at ht
  exact ⟨t, ht⟩

end Codes
end AthlibVerif
