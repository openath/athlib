import Mathlib.Analysis.SpecialFunctions.Pow.Real
import Mathlib.Algebra.Order.Floor.Semifield
import AthlibVerif.Lemmas.Exact
/-! bridge from the integer computation `floorPow` to the real formula `⌊A · D ^ X⌋` (Mathlib's `Real.rpow`) -/
namespace AthlibVerif
open Real

theorem le_mul_rpow_iff (p A D : ℝ) (a b : ℕ) (hb : 0 < b) (hp : 0 ≤ p) (hA : 0 ≤ A) (hD : 0 ≤ D) :
    p ≤ A * D ^ ((a : ℝ) / (b : ℝ)) ↔ p ^ b ≤ A ^ b * D ^ a := by
  have hb' : (b : ℝ) ≠ 0 := by exact_mod_cast hb.ne'
  have h1 : (A * D ^ ((a : ℝ) / (b : ℝ))) ^ b = A ^ b * D ^ a := by
    rw [mul_pow, ← Real.rpow_natCast (D ^ ((a:ℝ)/(b:ℝ))) b, ← Real.rpow_mul hD, div_mul_cancel₀ _ hb', Real.rpow_natCast]
  have hR : 0 ≤ A * D ^ ((a : ℝ) / (b : ℝ)) := mul_nonneg hA (Real.rpow_nonneg hD _)
  rw [← h1]
  exact (pow_le_pow_iff_left₀ hp hR hb.ne').symm

theorem natCast_le_formula_iff (aN aD dN dD xa xb p : ℕ) (hb : 0 < xb) (haD : 0 < aD) (hdD : 0 < dD) :
    (p : ℝ) ≤ ((aN : ℝ) / aD) * ((dN : ℝ) / dD) ^ ((xa : ℝ) / (xb : ℝ)) ↔ p ≤ floorPow aN aD dN dD xa xb := by
  rw [le_floorPow_iff aN aD dN dD xa xb p hb haD hdD]
  rw [le_mul_rpow_iff _ _ _ xa xb hb (Nat.cast_nonneg p) (by positivity) (by positivity)]
  rw [div_pow, div_pow, div_mul_div_comm, le_div_iff₀ (by positivity)]
  exact_mod_cast Iff.rfl

theorem floorPow_eq_floor_rpow (aN aD dN dD xa xb : ℕ) (hb : 0 < xb) (haD : 0 < aD) (hdD : 0 < dD) :
    floorPow aN aD dN dD xa xb = ⌊((aN : ℝ) / aD) * ((dN : ℝ) / dD) ^ ((xa : ℝ) / (xb : ℝ))⌋₊ := by
  have h0 : (0 : ℝ) ≤ ((aN : ℝ) / aD) * ((dN : ℝ) / dD) ^ ((xa : ℝ) / (xb : ℝ)) := by positivity
  apply le_antisymm
  · rw [Nat.le_floor_iff h0, natCast_le_formula_iff _ _ _ _ _ _ _ hb haD hdD]
  · rw [← natCast_le_formula_iff _ _ _ _ _ _ _ hb haD hdD]
    exact Nat.floor_le h0

end AthlibVerif
