import AthlibVerif.Lemmas.MatchSound
import AthlibVerif.Lemmas.Sym
import AthlibVerif.Model.Codes
/-!
# Tie between the two renderings of a pattern

`tools/gen_regex.py` emits every pattern twice: as an `RE` (`Gen/Patterns.lean`, the object of the C04
language theorems) and as a `GRE` with groups and priorities (`Gen/GPatterns.lean`, what the transcription of
`normalize_event_code` / `discipline_sort_key` / … runs).  They differ only in the order of the two
alternatives of an optional part (`x?` is `ε | x` in the first, `x | ε` — greedy — in the second) and in `$`.
`tieOK` checks, by evaluation on the regenerated terms, that a `GRE` is within the matcher's fuel budget,
anchored by `$` on every branch, and equal to the `RE` modulo that order; `tie_sound` concludes that
`re.match` of the one succeeds exactly on the language of the other.
-/
namespace AthlibVerif
namespace RE

theorem starL_mono {L L' : List Nat → Prop} (h : ∀ w, L w → L' w) {w : List Nat} (hs : StarL L w) : StarL L' w := by
  induction hs with
  | nil => exact StarL.nil
  | cons u v hne hu _ ih => exact StarL.cons u v hne (h u hu) ih

theorem lang_normOpt (r : RE) : ∀ w, lang (normOpt r) w ↔ lang r w := by
  induction r with
  | empty => intro w; rfl
  | eps => intro w; rfl
  | cls m => intro w; rfl
  | cat a b iha ihb =>
    intro w; simp only [normOpt, lang, iha, ihb]
  | alt a b iha ihb =>
    intro w
    simp only [normOpt]
    split
    · next hb =>
      have := ihb w
      rw [hb] at this
      simp only [lang] at this ⊢
      rw [iha w, ← this]; exact Or.comm
    · simp only [lang, iha w, ihb w]
  | star a iha => intro w; exact ⟨starL_mono fun u => (iha u).1, starL_mono fun u => (iha u).2⟩
  | and a b iha ihb => intro w; simp only [normOpt, lang, iha w, ihb w]
  | not a iha => intro w; simp only [normOpt, lang, iha w]

end RE

open RE GRE

theorem tie_sound (g : GRE) (p : RE) (h : tieOK g p = true) (inp : List Nat) :
    (matchFirst g inp).isSome = true ↔ RE.lang p inp := by
  simp only [tieOK, Bool.and_eq_true, beq_iff_eq] at h
  rw [matchFirst_anchored g h.1.1 h.1.2 inp, ← lang_normOpt (toRE [] g) inp, h.2, lang_normOpt]

namespace Codes

theorem pyMatch_iff (name : String) (p : RE) (h : tieOK (pat name) p = true) (s : Str) :
    (pyMatch name s).isSome = true ↔ Matches p s := by
  rw [pyMatch, Option.isSome_map]; exact tie_sound (pat name) p h (symsOf s)

theorem pyMatch_eq_none (name : String) (p : RE) (h : tieOK (pat name) p = true) (s : Str) (hn : ¬ Matches p s) :
    pyMatch name s = none :=
  Option.not_isSome_iff_eq_none.1 fun hs => hn ((pyMatch_iff name p h s).1 hs)

end Codes
end AthlibVerif
