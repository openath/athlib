import AthlibVerif.Model.Access
/-! What four of the five Boolean checkers of `Model/Access.lean` say about positions in an access list; the fifth,
`singleRead` (D3b), is a bound on a count and needs no reading. -/
namespace AthlibVerif.Access

theorem noScratchReadBack_tail (x : Acc) (l : List Acc) (h : noScratchReadBack (x :: l) = true) :
    noScratchReadBack l = true := by
  cases x with
  | sStore a b => cases b <;> simp_all [noScratchReadBack]
  | _ => simpa [noScratchReadBack] using h

theorem noScratchReadBack_spec (l pre post : List Acc) (a : Nat) (h : noScratchReadBack l = true)
    (hl : l = pre ++ .sStore a true :: post) : Acc.sLoad a ∉ post := by
  induction pre generalizing l with
  | nil =>
    subst hl
    simp only [List.nil_append, noScratchReadBack, Bool.and_eq_true, Bool.not_eq_true'] at h
    simpa using h.1
  | cons x pre ih =>
    subst hl
    exact ih _ (noScratchReadBack_tail x _ h) rfl

theorem completedLocals_tail (x : Acc) (l : List Acc) (h : completedLocals (x :: l) = true) :
    completedLocals l = true := by
  cases x with
  | gRebind g r => cases r <;> simp_all [completedLocals]
  | _ => simpa [completedLocals] using h

theorem completedLocals_spec (l pre post : List Acc) (g v : Nat) (h : completedLocals l = true)
    (hl : l = pre ++ .gRebind g (.localVar v) :: post) : Acc.lMutate v ∉ post := by
  induction pre generalizing l with
  | nil =>
    subst hl
    simp only [List.nil_append, completedLocals, Bool.and_eq_true, Bool.not_eq_true'] at h
    simpa using h.1
  | cons x pre ih =>
    subst hl
    exact ih _ (completedLocals_tail x _ h) rfl

theorem noMutateOfPublished_spec (rb : List Nat) (l : List Acc) (g : Nat) (b : Bool)
    (h : noMutateOfPublished rb l = true) (hm : Acc.gMutate g b ∈ l) : g ∉ rb := by
  have := List.all_eq_true.1 h _ hm
  simpa using this

theorem lockedMutations_spec (rb : List Nat) (l : List Acc) (g : Nat) (b : Bool)
    (h : lockedMutations rb l = true) (hm : Acc.gMutate g b ∈ l) (hg : g ∉ rb) : b = true := by
  have := List.all_eq_true.1 h _ hm
  simp only [Bool.or_eq_true] at this
  rcases this with h | h
  · exact absurd (by simpa using h) hg
  · exact h

end AthlibVerif.Access
