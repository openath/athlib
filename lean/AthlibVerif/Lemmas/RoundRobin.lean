import AthlibVerif.Lemmas.Interleave
/-!
# The round-robin order of the card import

`from_matrix` replays each height "attempt 1 of everybody in card order, then attempt 2, then attempt 3".  For a
block of trials whose per-athlete sequences are the cells `cell b`, that order (`roundRobin`) is a rearrangement
which keeps each athlete's own order — so by the interleaving theorem it is accepted whenever the recorded order
was, with the same outcome.
-/
namespace AthlibVerif.HJ

def roundRobin (order : List Nat) (cell : Nat → List Trial) : List Op :=
  (List.range 3).flatMap (fun a => order.filterMap (fun b => ((cell b)[a]?).map (Op.trial b)))

theorem thread_flatMap (b : Nat) (l : List Nat) (f : Nat → List Op) :
    thread b (l.flatMap f) = l.flatMap (fun a => thread b (f a)) :=
  List.filter_flatMap

theorem thread_filterMap (b : Nat) (order : List Nat) (g : Nat → Option Trial) (hn : order.Nodup) :
    thread b (order.filterMap (fun b' => (g b').map (Op.trial b'))) =
      if b ∈ order then ((g b).map (Op.trial b)).toList else [] := by
  induction order with
  | nil => rfl
  | cons x xs ih =>
    have hn' := List.nodup_cons.1 hn
    have ih' := ih hn'.2
    unfold thread at ih' ⊢
    rw [List.filterMap_cons]
    by_cases e : x = b
    · subst e
      rw [if_neg hn'.1] at ih'
      rw [if_pos List.mem_cons_self]
      cases g x with
      | none => exact ih'
      | some t =>
        simp only [Option.map_some, List.filter_cons, bibOf_trial, beq_self_eq_true, if_true, ih']
        rfl
    · simp only [List.mem_cons, Ne.symm e, false_or]
      cases g x with
      | none => exact ih'
      | some t =>
        have hne : (bibOf (Op.trial x t) == some b) = false := by rw [bibOf_trial]; simpa using e
        simp only [Option.map_some, List.filter_cons, hne, Bool.false_eq_true, if_false]
        exact ih'

theorem range3_getElem (l : List Op) (h : l.length ≤ 3) :
    (List.range 3).flatMap (fun a => (l[a]?).toList) = l := by
  match l, h with
  | [], _ => rfl
  | [_], _ => rfl
  | [_, _], _ => rfl
  | [_, _, _], _ => rfl

theorem thread_roundRobin (order : List Nat) (cell : Nat → List Trial) (hn : order.Nodup) (b : Nat)
    (hlen : (cell b).length ≤ 3) :
    thread b (roundRobin order cell) = if b ∈ order then (cell b).map (Op.trial b) else [] := by
  unfold roundRobin
  rw [thread_flatMap]
  simp only [thread_filterMap b order _ hn]
  split
  · simp only [← List.getElem?_map]
    exact range3_getElem _ (by simpa using hlen)
  · rfl

theorem roundRobin_trials (order : List Nat) (cell : Nat → List Trial) :
    ∀ op ∈ roundRobin order cell, ∃ b t, op = Op.trial b t := by
  intro op hop
  unfold roundRobin at hop
  obtain ⟨a, _, ha⟩ := List.mem_flatMap.1 hop
  obtain ⟨b, _, hb⟩ := List.mem_filterMap.1 ha
  cases hc : (cell b)[a]? with
  | none => rw [hc] at hb; cases hb
  | some t => rw [hc] at hb; exact ⟨b, t, by simpa using hb.symm⟩

end AthlibVerif.HJ
