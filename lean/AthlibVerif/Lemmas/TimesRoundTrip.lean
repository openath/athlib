import AthlibVerif.Lemmas.TimesFormat
import AthlibVerif.Lemmas.TimesParse
/-! Round trip: `parse_hms` of `fmtHMS h m s` followed by `p` decimals is exactly the number printed (`parseHms_fmtHMS`). -/
namespace AthlibVerif.Times
open AthlibVerif.Digits

theorem add60_int (a : Int) (b : Bool) (x : Int) (e : Nat) :
    (⟨true, a, 0⟩ : Num).add60 ⟨b, x, e⟩ = ⟨b, a * 60 * (10 : Int) ^ e + x, e⟩ := by
  simp [Num.add60]

theorem pad2_digits (x : Nat) : padLeft 2 (render x) ≠ [] ∧ allDig (padLeft 2 (render x)) = true := by
  unfold padLeft
  refine ⟨fun h => render_ne_nil x (List.append_eq_nil_iff.1 h).2, ?_⟩
  rw [allDig_append, allDig_zeros, allDig_render]
  rfl

theorem val_pad2 (x : Nat) : val (padLeft 2 (render x)) = x := by
  unfold padLeft; rw [val_zeros_append, val_render]

theorem pad2_length (x : Nat) (h : x < 100) : (padLeft 2 (render x)).length = 2 := by
  have h1 := render_length_le x 2 (by omega) (by omega)
  have h2 := render_length_pos x
  unfold padLeft; rw [List.length_append, zeros_length]; omega

theorem parseField_last (d fd : List Char) (p : Nat) (hne : d ≠ []) (hd : allDig d = true) (hfd : allDig fd = true)
    (hlen : fd.length = p) :
    parseField (d ++ fracPart fd p) = some ⟨decide (p = 0), ((val d * 10 ^ p + val fd : Nat) : Int), p⟩ := by
  unfold fracPart
  by_cases hp : p = 0
  · subst hp
    have : fd = [] := List.length_eq_zero_iff.1 hlen
    subst this
    simp [parseField_digits d hne hd]
  · rw [if_neg hp, parseField_decimal d fd hne hd hfd, val_append, hlen]
    simp [hp]

/-- `c.fd`, `b:c.fd`, `a:b:c.fd` (`a`, `b`, `c` digits, `.fd` the `p` decimals) are `c`, `60b + c`, `3600a + 60b + c` at
    `p` decimals; the three shapes are nested so that `c` and `b` are given once -/
theorem parseHms_digits (sep : Char) (hs : sep = ':' ∨ sep = ';') (c fd : List Char) (p : Nat)
    (hc : c ≠ [] ∧ allDig c = true) (hfd : allDig fd = true) (hlen : fd.length = p) :
    parseHms (c ++ fracPart fd p) = .ok ⟨decide (p = 0), ((val c * 10 ^ p + val fd : Nat) : Int), p⟩ ∧
    ∀ b, b ≠ [] ∧ allDig b = true →
      parseHms (b ++ sep :: (c ++ fracPart fd p)) =
        .ok ⟨decide (p = 0), (((val b * 60 + val c) * 10 ^ p + val fd : Nat) : Int), p⟩ ∧
      ∀ a, a ≠ [] ∧ allDig a = true →
        parseHms (a ++ sep :: (b ++ sep :: (c ++ fracPart fd p))) =
          .ok ⟨decide (p = 0), (((val a * 3600 + val b * 60 + val c) * 10 ^ p + val fd : Nat) : Int), p⟩ := by
  have pc := parseField_last c fd p hc.1 hc.2 hfd hlen
  refine ⟨parseHms_joinWith_some sep hs [_] (by simp) _ ?_, fun b hb => ?_⟩
  · rw [parseFields_cons _ _ _ _ pc, zero_add60]
    rfl
  have pb := parseField_digits b hb.1 hb.2
  refine ⟨parseHms_joinWith_some sep hs [b, _] (by simp) _ ?_, fun a ha => ?_⟩
  · rw [parseFields_cons _ _ _ _ pb, parseFields_cons _ _ _ _ pc, zero_add60, add60_int]
    simp only [parseFields]
    congr 2
    -- Horner, in ℤ: `b * 60 * 10 ^ p + ↑(c * 10 ^ p + fd) = ↑((b * 60 + c) * 10 ^ p + fd)`
    grind
  have pa := parseField_digits a ha.1 ha.2
  refine parseHms_joinWith_some sep hs [a, b, _] (by simp) _ ?_
  rw [parseFields_cons _ _ _ _ pa, parseFields_cons _ _ _ _ pb, parseFields_cons _ _ _ _ pc, zero_add60, add60_int,
    add60_int]
  simp only [parseFields, Int.pow_zero, Int.mul_one]
  congr 2
  -- Horner, in ℤ: `(a * 60 + b) * 60 * 10 ^ p + ↑(c * 10 ^ p + fd) = ↑((a * 3600 + b * 60 + c) * 10 ^ p + fd)`
  grind

theorem parseHms_fmtHMS (h m s p : Nat) (fd : List Char) (hfd : allDig fd = true) (hlen : fd.length = p) :
    parseHms (fmtHMS h m s ++ fracPart fd p) =
      .ok ⟨decide (p = 0), (((h * 3600 + m * 60 + s) * 10 ^ p + val fd : Nat) : Int), p⟩ := by
  have rd : ∀ x, render x ≠ [] ∧ allDig (render x) = true := fun x => ⟨render_ne_nil x, allDig_render x⟩
  -- the shapes with the seconds printed `%02d`
  have P := parseHms_digits ':' (.inl rfl) _ fd p (pad2_digits s) hfd hlen
  unfold fmtHMS
  by_cases h0 : h ≠ 0
  · have hhms := (P.2 _ (pad2_digits m)).2 _ (rd h)   -- `h:mm:ss.fd`
    rw [if_pos h0, List.append_assoc, List.cons_append, List.append_assoc, List.cons_append, hhms, val_render, val_pad2,
      val_pad2]
  · have h0' : h = 0 := by omega
    subst h0'
    rw [if_neg h0, Nat.zero_mul, Nat.zero_add]
    by_cases m0 : m ≠ 0
    · have hms := (P.2 _ (rd m)).1   -- `m:ss.fd`
      rw [if_pos m0, List.append_assoc, List.cons_append, hms, val_render, val_pad2]
    · have m0' : m = 0 := by omega
      subst m0'
      have hs := (parseHms_digits ':' (.inl rfl) _ fd p (rd s) hfd hlen).1   -- `s.fd`, the seconds not padded
      rw [if_neg m0, hs, val_render, Nat.zero_mul, Nat.zero_add]

end AthlibVerif.Times
