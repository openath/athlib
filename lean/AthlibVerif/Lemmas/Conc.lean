import AthlibVerif.Model.Conc
/-!
Invariant reasoning for `Conc`: one generic rule (`runSched_inv`), and per protocol a thread invariant
with the one lemma that a step keeps it.  Then the run of one thread alone (`stepW_solo`, `lazy_build_loop`,
`lazy_solo`): what "the sequential result" is.
-/
namespace AthlibVerif.Conc

/-- `GI` speaks of the store, `TI` of one thread in a store; the last conjunct of `hstep` is non-interference: a step does
not disturb `TI` of any other thread -/
theorem runSched_inv {S T : Type} (step : S → T → S × T) (GI : S → Prop) (TI : S → T → Prop)
    (hstep : ∀ s t, GI s → TI s t →
      GI (step s t).1 ∧ TI (step s t).1 (step s t).2 ∧ ∀ u, TI s u → TI (step s t).1 u)
    (w : World S T) (hg : GI w.g) (ht : ∀ t ∈ w.ts, TI w.g t) (sched : List Nat) :
    GI (runSched step w sched).g ∧ ∀ t ∈ (runSched step w sched).ts, TI (runSched step w sched).g t := by
  induction sched generalizing w with
  | nil => exact ⟨hg, ht⟩
  | cons i rest ih =>
    refine ih (stepW step w i) ?_ ?_
    · unfold stepW
      split
      · exact hg
      · next t hti => exact (hstep w.g t hg (ht t (List.mem_of_getElem? hti))).1
    · unfold stepW
      split
      · exact ht
      · next t hti =>
        obtain ⟨_, hself, hothers⟩ := hstep w.g t hg (ht t (List.mem_of_getElem? hti))
        intro u hu
        rcases List.mem_or_eq_of_mem_set hu with hu' | rfl
        · exact hothers u (ht u hu')
        · exact hself

theorem runSched_append {S T : Type} (step : S → T → S × T) (w : World S T) (s₁ s₂ : List Nat) :
    runSched step w (s₁ ++ s₂) = runSched step (runSched step w s₁) s₂ :=
  List.foldl_append

def lazyTI (src : Table) (g : Option Table) (t : LazyT) : Prop :=
  match t.pc with
  | .start => True
  | .build i acc => acc = src.take i
  | .publish acc => acc = src
  | .check => g = some src
  | .fetch => g = some src
  | .done r => r = src.lookup t.key

def tableGI (src : Table) (g : Option Table) : Prop := g = none ∨ g = some src

/-- the store enters a thread's invariant only through "the table is published", which stays true -/
theorem lazyTI_mono (src : Table) (g g' : Option Table) (t : LazyT)
    (hmono : g = some src → g' = some src) (ht : lazyTI src g t) : lazyTI src g' t := by
  obtain ⟨pc, k⟩ := t
  cases pc <;> first | exact ht | exact hmono ht

theorem lazyStep_inv (src : Table) (g : Option Table) (t : LazyT) (hg : tableGI src g) (ht : lazyTI src g t) :
    tableGI src (lazyStep src g t).1 ∧ lazyTI src (lazyStep src g t).1 (lazyStep src g t).2 ∧
      ∀ u, lazyTI src g u → lazyTI src (lazyStep src g t).1 u := by
  have same : ∀ u, lazyTI src g u → lazyTI src g u := fun _ h => h
  -- once the program counter is known, step and invariant compute: each case gives the store's invariant,
  -- the stepping thread's (mostly `rfl`) and the other threads' (`same` unless the store changes)
  obtain ⟨pc, k⟩ := t
  cases pc with
  | start =>
    cases g with
    | none => exact ⟨hg, rfl, same⟩
    | some tbl => exact ⟨hg, hg.resolve_left nofun, same⟩
  | build i acc =>
    cases ht
    simp only [lazyStep]
    split
    · next e he =>
      have : src.take i ++ [e] = src.take (i + 1) := by rw [List.take_add_one, he]; rfl
      exact ⟨hg, this, same⟩
    · next he => exact ⟨hg, List.take_of_length_le (List.getElem?_eq_none_iff.1 he), same⟩
  | publish acc =>
    cases ht
    exact ⟨.inr rfl, rfl, fun u => lazyTI_mono src g _ u fun _ => rfl⟩
  | check =>
    cases ht
    simp only [lazyStep, Option.getD_some]
    split
    · exact ⟨hg, rfl, same⟩
    · next h => exact ⟨hg, (Option.not_isSome_iff_eq_none.1 h).symm, same⟩
  | fetch => cases ht; exact ⟨hg, rfl, same⟩
  | done r => exact ⟨hg, ht, same⟩

def assignTI (src : Table) (g : Option Table) (t : AssignT) : Prop :=
  match t.pc with
  | .start => True
  | .load => True
  | .assign tbl => tbl = src
  | .check => g = some src
  | .fetch => g = some src
  | .done r => r = src.lookup t.key

theorem assignTI_mono (src : Table) (g g' : Option Table) (t : AssignT)
    (hmono : g = some src → g' = some src) (ht : assignTI src g t) : assignTI src g' t := by
  obtain ⟨pc, k⟩ := t
  cases pc <;> first | exact ht | exact hmono ht

theorem assignStep_inv (src : Table) (g : Option Table) (t : AssignT) (hg : tableGI src g)
    (ht : assignTI src g t) :
    tableGI src (assignStep src g t).1 ∧ assignTI src (assignStep src g t).1 (assignStep src g t).2 ∧
      ∀ u, assignTI src g u → assignTI src (assignStep src g t).1 u := by
  have same : ∀ u, assignTI src g u → assignTI src g u := fun _ h => h
  obtain ⟨pc, k⟩ := t
  cases pc with
  | start =>
    cases g with
    | none => exact ⟨hg, trivial, same⟩
    | some tbl => exact ⟨hg, hg.resolve_left nofun, same⟩
  | load => exact ⟨hg, rfl, same⟩
  | assign tbl =>
    cases ht
    exact ⟨.inr rfl, rfl, fun u => assignTI_mono src g _ u fun _ => rfl⟩
  | check =>
    cases ht
    simp only [assignStep, Option.getD_some]
    split
    · exact ⟨hg, rfl, same⟩
    · next h => exact ⟨hg, (Option.not_isSome_iff_eq_none.1 h).symm, same⟩
  | fetch => cases ht; exact ⟨hg, rfl, same⟩
  | done r => exact ⟨hg, ht, same⟩

def lookTI (G : Grader) (t : LookT) : Prop :=
  match t.pc with
  | .start => True
  | .gotAge ax => ax = G.findAge t.q.age
  | .gotRow ax fx => ax = G.findAge t.q.age ∧ fx = G.findRow t.q.ev
  | .done r => r = lookSpec G t.q

theorem lookLocalStep_inv (G : Grader) (s : Scratch) (t : LookT) (ht : lookTI G t) :
    lookTI G (lookLocalStep G s t).2 := by
  obtain ⟨pc, q⟩ := t
  cases pc with
  | start => exact rfl
  | gotAge ax => exact ⟨ht, rfl⟩
  | gotRow ax fx =>
    obtain ⟨h1, h2⟩ : ax = G.findAge q.age ∧ fx = G.findRow q.ev := ht
    subst h1 h2; exact rfl
  | done r => exact ht

def cacheGI (truth : Nat → Bool) (c : Cache) : Prop := ∀ p ∈ c, p.2 = truth p.1

def cacheTI (truth : Nat → Bool) (t : CacheT) : Prop :=
  match t.pc with
  | .done r => r = truth t.key
  | _ => True

theorem mem_of_lookup (c : Cache) (k : Nat) (v : Bool) (h : c.lookup k = some v) : (k, v) ∈ c := by
  obtain ⟨l₁, l₂, rfl, _⟩ := List.lookup_eq_some_iff.1 h
  simp

theorem mem_put (c : Cache) (k : Nat) (v : Bool) (p : Nat × Bool) (h : p ∈ put c k v) : p ∈ c ∨ p = (k, v) := by
  induction c with
  | nil => simp [put] at h; exact Or.inr h
  | cons q rest ih =>
    obtain ⟨k', v'⟩ := q
    simp only [put] at h
    split at h
    · rcases List.mem_cons.1 h with h | h
      · exact Or.inr h
      · exact Or.inl (List.mem_cons_of_mem _ h)
    · rcases List.mem_cons.1 h with h | h
      · exact Or.inl (by rw [h]; exact List.mem_cons_self)
      · rcases ih h with h | h
        · exact Or.inl (List.mem_cons_of_mem _ h)
        · exact Or.inr h

theorem length_put (c : Cache) (k : Nat) (v : Bool) : (put c k v).length ≤ c.length + 1 := by
  induction c with
  | nil => simp [put]
  | cons q rest ih =>
    obtain ⟨k', v'⟩ := q
    simp only [put]
    split <;> simp <;> omega

theorem mem_evict (cap : Nat) (c : Cache) (p : Nat × Bool) (h : p ∈ evict cap c) : p ∈ c := by
  unfold evict at h
  split at h
  · exact List.mem_of_mem_take h
  · exact h

theorem length_evict (cap : Nat) (c : Cache) (hcap : 1 ≤ cap) : (evict cap c).length + 1 ≤ cap := by
  unfold evict
  split
  · rw [List.length_take]; omega
  · omega

theorem cacheStep_inv (truth : Nat → Bool) (cap : Nat) (c : Cache) (t : CacheT)
    (hg : cacheGI truth c) (ht : cacheTI truth t) :
    cacheGI truth (cacheStep truth cap c t).1 ∧ cacheTI truth (cacheStep truth cap c t).2 := by
  obtain ⟨pc, k⟩ := t
  cases pc with
  | start =>
    simp only [cacheStep]
    split
    · next v hv => exact ⟨hg, hg _ (mem_of_lookup c k v hv)⟩
    · exact ⟨hg, trivial⟩
  | miss =>
    refine ⟨fun p hp => ?_, rfl⟩
    rcases mem_put _ _ _ _ hp with h | rfl
    · exact hg p (mem_evict cap c p h)
    · rfl
  | done r => exact ⟨hg, ht⟩

theorem cacheStep_bounded (truth : Nat → Bool) (cap : Nat) (hcap : 1 ≤ cap) (c : Cache) (t : CacheT)
    (hc : c.length ≤ cap) : (cacheStep truth cap c t).1.length ≤ cap := by
  obtain ⟨pc, k⟩ := t
  cases pc with
  | start => simp only [cacheStep]; split <;> exact hc
  | miss => exact Nat.le_trans (length_put _ _ _) (length_evict cap c hcap)
  | done r => exact hc

/-- the single-threaded runs below rewrite with this equation, because letting `simp` unfold `stepW` redoes the `[t][0]?` /
`List.set` reduction at every step (two to three times the cost) and a whole run by `rfl` / `show` is dearer still -/
theorem stepW_solo {S T : Type} (step : S → T → S × T) (g : S) (t : T) :
    stepW step ⟨g, [t]⟩ 0 = ⟨(step g t).1, [(step g t).2]⟩ := rfl

theorem lazy_build_loop (src : Table) (k d i : Nat) (h : i + d = src.length) :
    runSched (lazyStep src) ⟨none, [⟨.build i (src.take i), k⟩]⟩ (List.replicate d 0) =
      ⟨none, [⟨.build src.length src, k⟩]⟩ := by
  induction d generalizing i with
  | zero =>
    have : i = src.length := by omega
    subst this
    simp [runSched]
  | succ d ih =>
    have hi : i < src.length := by omega
    -- `simp` folds `src.take i ++ [src[i]]` by `List.take_append_getElem`; its converse `List.take_add_one`
    -- must stay out of the simp set, the two loop
    simpa [runSched, List.replicate_succ, stepW_solo, lazyStep, hi] using ih (i + 1) (by omega)

/-- a first call running alone returns `src.lookup key` after `src.length + 5` steps: one to see the
cell unset, `src.length` round the loop, four to leave it, publish, check and fetch -/
theorem lazy_solo (src : Table) (k : Nat) :
    runSched (lazyStep src) (lazyInit none [k]) (List.replicate (src.length + 5) 0) =
      ⟨some src, [⟨.done (src.lookup k), k⟩]⟩ := by
  have h1 : runSched (lazyStep src) (lazyInit none [k]) [0] = ⟨none, [⟨.build 0 (src.take 0), k⟩]⟩ := rfl
  have e : List.replicate (src.length + 5) 0 = [0] ++ List.replicate src.length 0 ++ [0, 0, 0, 0] := by
    show _ = List.replicate 1 0 ++ _ ++ List.replicate 4 0
    rw [List.replicate_append_replicate, List.replicate_append_replicate, Nat.add_comm 1]
  rw [e, runSched_append, runSched_append, h1, lazy_build_loop src k src.length 0 (by omega)]
  cases hl : src.lookup k <;> simp [runSched, stepW_solo, lazyStep, hl]

end AthlibVerif.Conc
