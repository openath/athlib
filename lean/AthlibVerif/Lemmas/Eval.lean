import AthlibVerif.Model.Sym
/-!
# Evaluating once

The kernel hands a function its argument unevaluated and evaluates it again at every use.  For the obligations
(`decide +kernel` over regenerated data) that is where the time goes: `symOf c` scans the alphabet table with
`c.toNat` recomputed twice per entry (17 000 heartbeats per character, 1 000 with the code point evaluated
first); `String.toList` of a literal re-encodes and decodes it (7 000 per character) at every use of the
character list; and a character read from a string is a different term each time, so nothing computed for it
is remembered.

`forceX x k` is `k x` (`forceX_eq`), written as a match on `x`: the kernel must evaluate `x` to enter `k` and
hands `k` the value.  An obligation rewrites its checker with these equations into a form that evaluates its
inputs once, and the kernel evaluates that form (`Oblig/C17/Keys.lean`); or the checker is written with them and the
lemma that uses it rewrites them away (`Codes.fieldSpellingsOK`).
-/
namespace AthlibVerif

def forceNat {β : Sort u} : Nat → (Nat → β) → β
  | 0, k => k 0
  | n+1, k => k (n+1)

theorem forceNat_eq {β : Sort u} (n : Nat) (k : Nat → β) : forceNat n k = k n := by
  cases n <;> rfl

def forceNats {β : Sort u} : List Nat → (List Nat → β) → β
  | [], k => k []
  | x :: xs, k => forceNat x fun x' => forceNats xs fun xs' => k (x' :: xs')

theorem forceNats_eq {β : Sort u} (l : List Nat) (k : List Nat → β) : forceNats l k = k l := by
  induction l generalizing k with
  | nil => rfl
  | cons x xs ih => simp only [forceNats, forceNat_eq, ih]

/-- characters as `Char.ofNat` of a numeral: equal characters become equal closed terms, and the kernel
    remembers the value of a closed term, so a function of a character is evaluated once per character -/
def forceChars {β : Sort u} : List Char → (List Char → β) → β
  | [], k => k []
  | c :: cs, k => forceNat c.toNat fun n => forceChars cs fun cs' => k (Char.ofNat n :: cs')

theorem forceChars_eq {β : Sort u} (l : List Char) (k : List Char → β) : forceChars l k = k l := by
  induction l generalizing k with
  | nil => rfl
  | cons c cs ih => simp only [forceChars, forceNat_eq, Char.ofNat_toNat, ih]

def forceWords {β : Sort u} : List (List Char) → (List (List Char) → β) → β
  | [], k => k []
  | w :: ws, k => forceChars w fun w' => forceWords ws fun ws' => k (w' :: ws')

theorem forceWords_eq {β : Sort u} (l : List (List Char)) (k : List (List Char) → β) : forceWords l k = k l := by
  induction l generalizing k with
  | nil => rfl
  | cons w ws ih => simp only [forceWords, forceChars_eq, ih]

/-- `matchesChars` with each code point evaluated before the alphabet table is scanned, and the symbol word
    before the derivatives are taken -/
def RE.matchesK (r : RE) (s : List Char) : Bool :=
  forceNats (s.map fun c => forceNat c.toNat symOfNat) r.accepts

theorem RE.matchesChars_eq (r : RE) (s : List Char) : r.matchesChars s = r.matchesK s := by
  simp only [RE.matchesK, forceNats_eq, forceNat_eq]
  rfl

end AthlibVerif
