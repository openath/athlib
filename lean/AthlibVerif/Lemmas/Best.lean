import AthlibVerif.Lemmas.Records
/-!
# The stored best is the greatest height on the card — in every reachable state

`Jumper.key` ranks by the stored `best` / `bestIdx`.  `BestInv` says what they are in terms of the printed card
and the list of heights: no column with a clearance when `bestIdx` is `none`; otherwise `bestIdx` is the FIRST
column among those cleared at the GREATEST cleared height and `best` is that height.  It is kept by every accepted
call (`AllBest.accepts`, with `WF`), so the key the places follow is the countback key of the card.

The file opens with what `padCard` and `appendLast` compute: the card after a mark cell by cell (`marked_card`) and
as a list (`appendLast_split`, `actCore_card_split`: the padded card is `init ++ [last]`, the new card
`init ++ [last ++ [t]]`).  Every invariant about cards starts from one of these.
-/
namespace AthlibVerif.HJ

def clearedAt (card : List (List Trial)) (i : Nat) : Bool := (card.getD i []).contains .o

structure BestInv (hs : List Int) (j : Jumper) : Prop where
  len : j.card.length ≤ hs.length
  noneCase : j.bestIdx = none → ∀ i, clearedAt j.card i = false
  someCase : ∀ i, j.bestIdx = some i →
    i < j.card.length ∧ clearedAt j.card i = true ∧ j.best = hs.getD i 0 ∧
    ∀ i', clearedAt j.card i' = true → hs.getD i' 0 ≤ j.best ∧ (hs.getD i' 0 = j.best → i ≤ i')

theorem getLast_getD {α : Type} (l : List α) {d : α} : l.getLast?.getD d = l.getD (l.length - 1) d := by
  rw [List.getLast?_eq_getElem?, List.getD_eq_getElem?_getD]

theorem padCard_length (card : List (List Trial)) (n : Nat) : (padCard card n).length = max card.length n := by
  unfold padCard; simp; omega

theorem padCard_ne_nil (card : List (List Trial)) {n : Nat} (hn : 0 < n) : padCard card n ≠ [] := by
  intro e
  have := padCard_length card n
  rw [e, List.length_nil] at this
  omega

theorem padCard_succ (card : List (List Trial)) (n : Nat) (h : card.length ≤ n) :
    padCard card (n + 1) = padCard card n ++ [[]] := by
  unfold padCard
  have : n + 1 - card.length = (n - card.length) + 1 := by omega
  rw [this, List.replicate_succ', List.append_assoc]

theorem padCard_getD (card : List (List Trial)) (n i : Nat) : (padCard card n).getD i [] = card.getD i [] := by
  unfold padCard
  simp only [List.getD_eq_getElem?_getD, List.getElem?_append]
  split
  · rfl
  · next h =>
    have : card[i]? = none := List.getElem?_eq_none (by omega)
    rw [this]
    cases hr : (List.replicate (n - card.length) ([] : List Trial))[i - card.length]? with
    | none => rfl
    | some x =>
      have := List.mem_of_getElem? hr
      simp at this
      simp [this.2]

theorem padCard_last_getD (a : List (List Trial)) (n : Nat) (hlen : a.length ≤ n) :
    (padCard a n).getLast?.getD [] = a.getD (n - 1) [] := by
  have hpl : (padCard a n).length = n := by rw [padCard_length]; omega
  rw [List.getLast?_eq_getElem?, hpl, ← List.getD_eq_getElem?_getD, padCard_getD]

theorem appendLast_concat (init : List (List Trial)) (last : List Trial) (t : Trial) :
    appendLast (init ++ [last]) t = init ++ [last ++ [t]] := by
  simp [appendLast, List.reverse_append]

theorem appendLast_length (card : List (List Trial)) (t : Trial) : (appendLast card t).length = card.length := by
  unfold appendLast
  cases h : card.reverse with
  | nil => have : card = [] := by simpa using h
           subst this; rfl
  | cons l rest =>
    have : card.length = (l :: rest).length := by rw [← h]; simp
    simp [this]

theorem appendLast_split (card : List (List Trial)) (t : Trial) (h : card ≠ []) :
    ∃ init last, card = init ++ [last] ∧ appendLast card t = init ++ [last ++ [t]] := by
  rcases List.eq_nil_or_concat card with h' | ⟨init, last, h'⟩
  · exact absurd h' h
  · have e : card = init ++ [last] := by simpa using h'
    exact ⟨init, last, e, by rw [e, appendLast_concat]⟩

theorem appendLast_spec (card : List (List Trial)) (t : Trial) (h : card ≠ []) :
    (appendLast card t).length = card.length ∧
    ∀ i, (appendLast card t).getD i [] = if i = card.length - 1 then card.getD i [] ++ [t] else card.getD i [] := by
  obtain ⟨init, last, rfl, e⟩ := appendLast_split card t h
  rw [e]
  refine ⟨by simp, ?_⟩
  intro i
  simp only [List.length_append, List.length_cons, List.length_nil, Nat.add_sub_cancel, List.getD_eq_getElem?_getD,
    List.getElem?_append]
  by_cases h1 : i < init.length
  · have : i ≠ init.length := by omega
    simp [h1, this]
  · by_cases h2 : i = init.length
    · subst h2; simp
    · have : ¬ i - init.length = 0 := by omega
      simp only [h1, if_false, h2]
      cases hi : i - init.length with
      | zero => exact absurd hi this
      | succ m => simp

theorem appendLast_getLast (card : List (List Trial)) (t : Trial) (hne : card ≠ []) :
    (appendLast card t).getLast?.getD [] = card.getLast?.getD [] ++ [t] := by
  obtain ⟨init, last, rfl, e⟩ := appendLast_split card t hne
  rw [e]
  simp

theorem padCard_of_full (card : List (List Trial)) (n : Nat) (h : card.length = n) : padCard card n = card := by
  unfold padCard; simp [h]

theorem marked_card (card : List (List Trial)) (n : Nat) (t : Trial) (hlen : card.length ≤ n) (hn : 0 < n) :
    (appendLast (padCard card n) t).length = n ∧
    ∀ i, (appendLast (padCard card n) t).getD i [] = if i = n - 1 then card.getD i [] ++ [t] else card.getD i [] := by
  have hpl : (padCard card n).length = n := by rw [padCard_length]; omega
  obtain ⟨hl, hget⟩ := appendLast_spec (padCard card n) t (padCard_ne_nil _ hn)
  exact ⟨hl.trans hpl, fun i => by rw [hget i, hpl, padCard_getD]⟩

theorem card_after_trial (card : List (List Trial)) {n : Nat} (hn : 0 < n) (hlen : card.length ≤ n) (t : Trial) :
    (appendLast (padCard card n) t).length = n ∧
    (padCard (appendLast (padCard card n) t) n).getLast?.getD [] = (padCard card n).getLast?.getD [] ++ [t] := by
  have hl := (marked_card card n t hlen hn).1
  exact ⟨hl, by rw [padCard_of_full _ _ hl, appendLast_getLast _ _ (padCard_ne_nil card hn)]⟩

theorem clearedAt_act (card : List (List Trial)) (hc : Nat) (t : Trial) (hlen : card.length ≤ hc) (hpos : 0 < hc) :
    (appendLast (padCard card hc) t).length = hc ∧
    ∀ i, clearedAt (appendLast (padCard card hc) t) i = (clearedAt card i || (decide (i = hc - 1) && t == .o)) := by
  obtain ⟨h1, h2⟩ := marked_card card hc t hlen hpos
  refine ⟨h1, ?_⟩
  intro i
  unfold clearedAt
  rw [h2 i]
  by_cases e : i = hc - 1
  · simp only [e, if_true, decide_true, Bool.true_and]
    rw [List.contains_append]
    cases t <;> simp
  · simp [e]

theorem getD_append_left (hs : List Int) (x : Int) (i : Nat) (h : i < hs.length) : (hs ++ [x]).getD i 0 = hs.getD i 0 := by
  simp [List.getD_eq_getElem?_getD, List.getElem?_append, h]

theorem clearedAt_lt (card : List (List Trial)) (i : Nat) (h : clearedAt card i = true) : i < card.length := by
  unfold clearedAt at h
  by_cases hi : i < card.length
  · exact hi
  · have : card.getD i [] = [] := by simp [List.getD_eq_getElem?_getD, List.getElem?_eq_none (Nat.le_of_not_lt hi)]
    rw [this] at h; simp at h

theorem BestInv.bar {hs : List Int} {j : Jumper} (x : Int) (h : BestInv hs j) :
    BestInv (hs ++ [x]) { j with dismissed := j.eliminated && j.dismissed } := by
  refine ⟨by have := h.len; simp; omega, h.noneCase, ?_⟩
  intro i hi
  obtain ⟨h1, h2, h3, h4⟩ := h.someCase i hi
  refine ⟨h1, h2, ?_, ?_⟩
  · rw [getD_append_left hs x i (by have := h.len; omega)]; exact h3
  · intro i' hi'
    have hlt := clearedAt_lt j.card i' hi'
    rw [getD_append_left hs x i' (by have := h.len; omega)]
    exact h4 i' hi'

theorem actCore_card_split (j : Jumper) {n : Nat} (hn : 0 < n) (h : Int) (t : Trial) :
    ∃ init last, padCard j.card n = init ++ [last] ∧ (j.actCore n h t).card = init ++ [last ++ [t]] := by
  obtain ⟨init, last, e1, e2⟩ := appendLast_split _ t (padCard_ne_nil j.card hn)
  exact ⟨init, last, e1, by rw [actCore_card, e2]⟩

theorem BestInv_act (hs : List Int) (j : Jumper) (t : Trial) (h : BestInv hs j) (hpos : hs ≠ []) :
    BestInv hs (j.actCore hs.length (hs.getLast?.getD 0) t) := by
  have hp : 0 < hs.length := List.length_pos_iff.2 hpos
  obtain ⟨hlen, hcl⟩ := clearedAt_act j.card hs.length t h.len hp
  have hlast : hs.getLast?.getD 0 = hs.getD (hs.length - 1) 0 := getLast_getD hs
  by_cases ht : t = .o
  · subst ht
    simp only [Jumper.actCore]
    split
    · next hcond =>
      -- the best is replaced by the current height
      refine ⟨by simp [hlen], by intro hn; simp at hn, ?_⟩
      intro i hi
      simp only [Option.some.injEq] at hi
      subst hi
      simp only [hlen]
      refine ⟨by omega, by rw [hcl]; simp, hlast, ?_⟩
      intro i' hi'
      rw [hcl] at hi'
      simp only [Bool.or_eq_true, Bool.and_eq_true, decide_eq_true_eq, beq_self_eq_true, and_true] at hi'
      simp only [Bool.or_eq_true, decide_eq_true_eq, Option.isNone_iff_eq_none] at hcond
      rcases hi' with hold | hcur
      · -- an older clearance: below the old best, hence below the new one
        cases hb : j.bestIdx with
        | none => have := h.noneCase hb i'; rw [this] at hold; cases hold
        | some i0 =>
          obtain ⟨_, _, _, h4⟩ := h.someCase i0 hb
          have hle : hs.getD i' 0 ≤ j.best := (h4 i' hold).1
          have hgt : j.best < hs.getLast?.getD 0 := hcond.resolve_left (by simp [hb])
          exact ⟨by omega, fun e => by omega⟩
      · subst hcur
        exact ⟨by rw [hlast]; exact Int.le_refl _, fun _ => Nat.le_refl _⟩
    · next hcond =>
      -- the best stays: it is at least the current height, and its column comes first
      simp only [Bool.or_eq_true, decide_eq_true_eq, Option.isNone_iff_eq_none, not_or] at hcond
      obtain ⟨hsome, hle⟩ := hcond
      refine ⟨by simp [hlen], by intro hn; exact absurd hn hsome, ?_⟩
      intro i hi
      simp only at hi
      obtain ⟨h1, h2, h3, h4⟩ := h.someCase i hi
      simp only [hlen]
      refine ⟨by have := h.len; omega, by rw [hcl, h2]; rfl, h3, ?_⟩
      intro i' hi'
      rw [hcl] at hi'
      simp only [Bool.or_eq_true, Bool.and_eq_true, decide_eq_true_eq, beq_self_eq_true, and_true] at hi'
      rcases hi' with hold | hcur
      · exact h4 i' hold
      · subst hcur
        rw [← hlast]
        exact ⟨by omega, fun _ => by have := h.len; omega⟩
  · -- a failure, a pass or a retirement: best and cleared columns stay
    obtain ⟨hb, hbi⟩ := actCore_best j hs.length (hs.getLast?.getD 0) t ht
    have hsame : ∀ i, clearedAt (appendLast (padCard j.card hs.length) t) i = clearedAt j.card i := by
      intro i; rw [hcl]; cases t <;> simp_all
    refine ⟨by rw [actCore_card, hlen]; exact Nat.le_refl _,
      fun hn i => by rw [actCore_card, hsame]; exact h.noneCase (hbi ▸ hn) i, ?_⟩
    intro i hi
    obtain ⟨h1, h2, h3, h4⟩ := h.someCase i (hbi ▸ hi)
    simp only [actCore_card, hsame, hb, hlen]
    exact ⟨by have := h.len; omega, h2, h3, h4⟩

theorem BestInv.rerank {hs : List Int} {k k' : Jumper} (hr : Reranked k k') (h : BestInv hs k) : BestInv hs k' := by
  -- ranking touches neither the card nor the best
  cases hr with
  | place => exact ⟨h.len, h.noneCase, h.someCase⟩
  | back => exact ⟨h.len, h.noneCase, h.someCase⟩

theorem BestInv.new (hs : List Int) (b p : Nat) : BestInv hs { bib := b, place := p } :=
  ⟨by simp, fun _ i => by simp [clearedAt], fun i hi => by simp at hi⟩

def AllBest (c : Comp) : Prop := ∀ j ∈ c.jumpers, BestInv c.heights j

theorem AllBest.accepts {c c' : Comp} {op : Op} (hw : WF c) (h : AllBest c) (ha : Accepts c op c') : AllBest c' :=
  ha.forall_records hw (fun b p _ => BestInv.new _ b p)
    (fun x _ _ hk => hk.bar x)
    (fun t k _ hh _ _ _ hk => BestInv_act _ k t hk hh)
    (fun _ _ => BestInv.rerank) h

end AthlibVerif.HJ
